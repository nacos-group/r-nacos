import RNacos.Lemmas.LogLayout
/-
The index area of a log file: parsing it back (`read_indexs`), finding the entry to restart from
(`get_start_index`, `get_file_index_by_log_index`).
-/
namespace RNacos.LogFile
open RNacos.Varint

/-! ### blocks of `I` entries -/

theorem sub_div_mul_lt (n I : Nat) (hI : 0 < I) : n - n / I * I < I :=
  Nat.mod_eq_sub_div_mul ▸ Nat.mod_lt n hI

theorem sub_add_div_mul_eq_mod (start I k : Nat) : k - (start + (k - start) / I * I) = (k - start) % I := by
  rw [Nat.sub_add_eq, Nat.mod_eq_sub_div_mul]

theorem succ_div_mod_lt (n I : Nat) (h : n % I + 1 < I) : (n + 1) / I = n / I ∧ (n + 1) % I = n % I + 1 :=
  (Nat.div_mod_unique (by omega)).mpr ⟨by have := Nat.div_add_mod n I; omega, h⟩

theorem succ_div_mod_eq (n I : Nat) (hI : 0 < I) (h : n % I + 1 = I) :
    (n + 1) / I = n / I + 1 ∧ (n + 1) % I = 0 ∧ n + 1 = (n / I + 1) * I := by
  have e : n + 1 = (n / I + 1) * I := by rw [Nat.succ_mul]; have := Nat.div_add_mod' n I; omega
  exact ⟨by rw [e, Nat.mul_div_cancel _ hI], by rw [e, Nat.mul_mod_left], e⟩

/-- index entry number `j`: the first entry of block `j` and its file offset -/
def entry (start I : Nat) (es : List Rec) (j : Nat) : Idx := ⟨start + j * I, offsetOf es (j * I)⟩

theorem idxList_eq (start I : Nat) (es : List Rec) :
    idxList start I es = (List.range (es.length / I + 1)).map (entry start I es) := rfl

theorem entry_le_iff {start I : Nat} {es : List Rec} {j s : Nat} (hI : 0 < I) (hs : start ≤ s) :
    (entry start I es j).logIndex ≤ s ↔ j ≤ (s - start) / I := by
  unfold entry
  simp only
  rw [Nat.le_div_iff_mul_le hI]
  omega

theorem behind_last_lt (start I : Nat) (es : List Rec) (hI : 0 < I) :
    es.length - ((entry start I es (es.length / I)).logIndex - start) < I := by
  show es.length - (start + es.length / I * I - start) < I
  rw [Nat.add_sub_cancel_left]; exact sub_div_mul_lt _ _ hI

theorem getLast_map_range {α : Type} (g : Nat → α) (j : Nat) (d : α) :
    ((List.range (j + 1)).map g).getLast?.getD d = g j := by
  rw [List.range_succ, List.map_append]; simp

theorem reverse_map_range {α : Type} (g : Nat → α) (j : Nat) :
    ((List.range (j + 1)).map g).reverse = g j :: ((List.range j).map g).reverse := by
  rw [List.range_succ, List.map_append, List.reverse_append]; rfl

theorem lastIdx_of_indexs {f : LogFile} {g : Nat → Idx} {j : Nat} (h : f.indexs = (List.range (j + 1)).map g) :
    lastIdx f = g j := by
  rw [lastIdx, h, getLast_map_range]

theorem entries_of_prefix (start I : Nat) {a b : List Rec} (h : a <+: b) {j : Nat} (hj : j * I ≤ a.length) :
    (List.range (j + 1)).map (entry start I b) = (List.range (j + 1)).map (entry start I a) :=
  List.map_congr_left fun _ hi => congrArg (Idx.mk _) <| offsetOf_of_prefix h
    (Nat.le_trans (Nat.mul_le_mul_right I (Nat.le_of_lt_succ (List.mem_range.mp hi))) hj)

/-- the loop of `read_indexs` when `j` of the `q` offset steps are read: the cursor stands behind step `j`, the pair read
last is entry `j`, the accumulator holds the entries up to `j`, last first, and the fuel covers the steps to come -/
theorem readIndexsGo_layout (start I : Nat) (es : List Rec) (z1 : List Nat) (hI : 0 < I)
    (q : Nat) (hq : q * I ≤ es.length)
    (hbound : offsetOf es es.length < 2 ^ 64)
    (hz : AllZero z1) (hz1 : 0 < z1.length)
    (hroom : ∀ j, j < q → (idxBytesUpTo I es j).length ≤ (idxBytesUpTo I es q ++ z1).length - 10) :
    ∀ (fuel j : Nat), j ≤ q → q < j + fuel →
      readIndexsGo fuel (idxBytesUpTo I es q ++ z1) I (idxBytesUpTo I es j).length (start + j * I)
        (offsetOf es (j * I)) (((List.range (j + 1)).map (entry start I es)).reverse) =
      ((List.range (q + 1)).map (entry start I es), (idxBytesUpTo I es q).length) := by
  intro fuel
  induction fuel with
  | zero => intro j hj hf; omega
  | succ g ih =>
    intro j hj hf
    rcases Nat.lt_or_eq_of_le hj with hlt | rfl
    · have hle : (j + 1) * I ≤ es.length := Nat.le_trans (Nat.mul_le_mul_right I hlt) hq
      have hsb := stepOf_lt I es j hle hbound
      obtain ⟨X, hX⟩ := idxBytesUpTo_prefix I es hlt
      have hoff : (idxBytesUpTo I es j).length + vsizeof (stepOf I es j) = (idxBytesUpTo I es (j + 1)).length := by
        rw [idxBytesUpTo_succ, List.length_append, vwrite_length_eq_vsizeof]
      have hv : vread (idxBytesUpTo I es q ++ z1) (idxBytesUpTo I es j).length = .ok (stepOf I es j) := by
        rw [← hX, idxBytesUpTo_succ, List.append_assoc, List.append_assoc, vread_at _ _ _ hsb]
      rw [readIndexsGo, hv]
      simp only [Nat.ne_of_gt (stepOf_pos I es j hI hle), if_false]
      rw [hoff, show start + j * I + I = start + (j + 1) * I by rw [Nat.succ_mul, Nat.add_assoc], offsetOf_step]
      -- the pair just read is displayed as `entry … (j + 1)`, for `reverse_map_range` to fold it into the accumulator
      show (if _ then ((entry start I es (j + 1) :: _).reverse, _) else readIndexsGo g _ I _ _ _ (entry start I es (j + 1) :: _)) = _
      rw [← reverse_map_range]
      split
      · -- only the last entry may end within ten bytes of the end of the area
        obtain rfl : j + 1 = q := by have := hroom (j + 1); omega
        rw [List.reverse_reverse]
      · exact ih (j + 1) hlt (by omega)
    · -- behind the last offset step the area holds a zero, which ends the loop
      obtain ⟨a, t, rfl⟩ := List.exists_cons_of_length_pos hz1
      obtain rfl : a = 0 := hz a List.mem_cons_self
      rw [readIndexsGo, show vread (_ ++ 0 :: t) _ = .ok 0 from vread_at _ t 0 (by omega)]
      simp

/-- **`read_indexs`** on an index area that holds the first `q` offset steps of `es`: exactly the entries up to `q`
and the cursor behind them (a file in use has `q = es.length / I`; after a crash there may be fewer).  `hroom`: the loop
is left once fewer than ten bytes of the area remain, so no offset step but the last may end there (`WF.room`, where `A`
is the limit `data_area_index` of the index area) -/
theorem readIndexs_layout (start I : Nat) (es : List Rec) (q : Nat) (Z : List Nat) (hI : 0 < I) (hq : q * I ≤ es.length)
    (hbound : offsetOf es es.length < 2 ^ 64) (hz : AllZero Z) {A : Nat} (hA : A ≤ dataStart)
    (hfit : 32 + (idxBytesUpTo I es q).length + Z.length = dataStart) (hcap : 32 + (idxBytesUpTo I es q).length < A)
    (hroom : ∀ j, j < q → 32 + (idxBytesUpTo I es j).length + 10 < A) :
    readIndexs (idxBytesUpTo I es q ++ Z) start I =
      ((List.range (q + 1)).map (entry start I es), (idxBytesUpTo I es q).length) := by
  have h := readIndexsGo_layout start I es Z hI q hq hbound hz (Nat.pos_of_lt_add_right (hfit ▸ Nat.lt_of_lt_of_le hcap hA))
    (fun j hj => by have := hroom j hj; simp only [List.length_append]; omega) (idxBytesUpTo I es q ++ Z).length 0
    (Nat.zero_le q) (by have := idxBytesUpTo_length_ge I es q; simp only [List.length_append]; omega)
  have hacc : ((List.range (0 + 1)).map (entry start I es)).reverse = [⟨start, dataStart⟩] := by
    simp [entry, offsetOf_zero]
  rw [hacc, Nat.zero_mul, offsetOf_zero, Nat.add_zero] at h
  exact h

/-- `get_start_index`: the index entry of the block that holds record `s` -/
theorem startIdx_layout (f : LogFile) (es : List Rec) (s : Nat) (hI : 0 < f.interval)
    (hidx : f.indexs = idxList f.startIndex f.interval es) (hs : f.startIndex ≤ s)
    (hlt : s < f.startIndex + es.length) :
    startIdx f s = entry f.startIndex f.interval es ((s - f.startIndex) / f.interval) := by
  have hj : (s - f.startIndex) / f.interval ≤ es.length / f.interval := Nat.div_le_div_right (by omega)
  -- the entries up to that of the block pass the filter, those behind it do not
  obtain ⟨d, hd⟩ := Nat.exists_eq_add_of_le hj
  rw [startIdx, hidx, idxList_eq, hd, Nat.add_right_comm, List.range_add, List.map_append, List.filter_append,
    List.filter_eq_self.mpr, List.filter_eq_nil_iff.mpr, List.append_nil, getLast_map_range]
  · intro e he
    obtain ⟨_, hi, rfl⟩ := List.mem_map.mp he
    obtain ⟨i, -, rfl⟩ := List.mem_map.mp hi
    rw [decide_eq_true_iff, entry_le_iff hI hs]
    omega
  · intro e he
    obtain ⟨i, hi, rfl⟩ := List.mem_map.mp he
    rw [decide_eq_true_iff, entry_le_iff hI hs]
    exact Nat.le_of_lt_succ (List.mem_range.mp hi)

/-- `file_index_len` of `get_file_index_by_log_index` once its walk back from entry `q` has reached entry `m` -/
def tailLen (I : Nat) (es : List Rec) (q m : Nat) : Nat :=
  (idxBytesUpTo I es q).length - (idxBytesUpTo I es m).length

theorem tailLen_self (I : Nat) (es : List Rec) (q : Nat) : tailLen I es q q = 0 := Nat.sub_self _

theorem tailLen_pred (I : Nat) (es : List Rec) (q m : Nat) (hm : m + 1 ≤ q) :
    tailLen I es q m = tailLen I es q (m + 1) + (vwrite (stepOf I es m)).length := by
  unfold tailLen
  have h1 := idxBytesUpTo_mono I es hm
  rw [idxBytesUpTo_succ, List.length_append] at h1 ⊢
  omega

/-- the walk back of `get_file_index_by_log_index` from the last entry `q`, when it has reached entry `m`: it carries
entry `m` and the bytes and the number of the entries passed, and it stops at entry `js`, the last one at or below `k`
(`hjs`) -/
theorem findIdxGo_layout (start I : Nat) (es : List Rec) (q js k : Nat) (hI : 0 < I)
    (hjs : ∀ j, start + j * I ≤ k ↔ j ≤ js) :
    ∀ m : Nat, js < m → m ≤ q →
      findIdxGo ((List.range m).map (entry start I es)).reverse (entry start I es m) (tailLen I es q m) (q - m) k =
        some (entry start I es js, tailLen I es q js, q - js) := by
  intro m
  induction m with
  | zero => intro h; exact absurd h (Nat.not_lt_zero _)
  | succ p ih =>
    intro hm hmq
    have hch : (entry start I es p).logIndex ≠ (entry start I es (p + 1)).logIndex := by
      show start + p * I ≠ start + (p + 1) * I
      rw [Nat.succ_mul]; omega
    -- entry `p` is another than entry `p + 1`, so the offset step between them is counted
    rw [reverse_map_range, findIdxGo]
    simp only [hch, ne_eq, not_false_eq_true, if_true]
    rw [show (entry start I es (p + 1)).fileIndex - (entry start I es p).fileIndex = stepOf I es p from rfl,
      ← vwrite_length_eq_vsizeof, ← tailLen_pred I es q p hmq, show q - (p + 1) + 1 = q - p by omega]
    show (if start + p * I ≤ k then _ else _) = _
    by_cases hp : p = js
    · subst hp; rw [if_pos ((hjs p).mpr (Nat.le_refl _))]
    · rw [if_neg fun h => hp (Nat.le_antisymm ((hjs p).mp h) (Nat.le_of_lt_succ hm)),
        ih (by omega) (Nat.le_of_succ_le hmq)]

/-- **`get_file_index_by_log_index`** for a cut at `k` inside the file: the entry of `k`'s block, the bytes
of the index entries behind it, and their number -/
theorem findIdx_layout (f : LogFile) (es : List Rec) (k : Nat) (hI : 0 < f.interval)
    (hidx : f.indexs = idxList f.startIndex f.interval es)
    (hs : f.startIndex ≤ k) (hlt : k < f.startIndex + es.length) :
    findIdx f k = some (entry f.startIndex f.interval es ((k - f.startIndex) / f.interval),
      tailLen f.interval es (es.length / f.interval) ((k - f.startIndex) / f.interval),
      es.length / f.interval - (k - f.startIndex) / f.interval) := by
  have hjs : ∀ j, f.startIndex + j * f.interval ≤ k ↔ j ≤ (k - f.startIndex) / f.interval := fun j =>
    entry_le_iff (es := es) hI hs
  have hjq : (k - f.startIndex) / f.interval ≤ es.length / f.interval := Nat.div_le_div_right (by omega)
  -- the walk starts at the last entry, which is its own predecessor: nothing is counted for it
  rw [findIdx, lastIdx, hidx, idxList_eq, getLast_map_range, reverse_map_range, findIdxGo]
  simp only [ne_eq, not_true_eq_false, if_false]
  split
  next h => rw [Nat.le_antisymm hjq ((hjs _).mp h), tailLen_self, Nat.sub_self]
  next h =>
    have := findIdxGo_layout f.startIndex f.interval es (es.length / f.interval) ((k - f.startIndex) / f.interval) k hI
      hjs _ (Nat.lt_of_le_of_ne hjq fun e => h ((hjs _).mpr (Nat.le_of_eq e.symm))) (Nat.le_refl _)
    rwa [tailLen_self, Nat.sub_self] at this

theorem findIdxGo_none (l : List Idx) (last : Idx) (len pop k : Nat) (h : ∀ e ∈ l, k < e.logIndex) :
    findIdxGo l last len pop k = none := by
  induction l generalizing last len pop with
  | nil => rfl
  | cons a t ih =>
    rw [findIdxGo, if_neg (Nat.not_le.mpr (h a List.mem_cons_self))]
    exact ih _ _ _ fun e he => h e (List.mem_cons_of_mem _ he)

end RNacos.LogFile
