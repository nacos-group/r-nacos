import RNacos.Lemmas.NamingSvc
/-
The whole registry.  As for one service there are two views: that every operation keeps the invariant `Inv` (every
service's `SvcInv`, the namespace index, the client reverse map), and, for registration and removal, what the operation
does to the instance registered under a service and an address (`Naming.find?`, equations `find?_…`; those of
`removeClient` are in Props/C12).  The reverse map is read through `recs` (the addresses recorded for a client), with
one equation per update of the map; `Recorded` is the invariant's clause about it in these terms.  `Inv.update` is the
invariant when one service key changes, as `SvcInv.update` is for one address of a service.
-/
namespace RNacos.Naming

/-- the reverse-map entry `ik` of client `c` points at an existing instance that belongs to `c` -/
def Owned (n : Naming) (c : String) (ik : IKey) : Prop :=
  ∃ s i, AL.get? n.services ik.skey = some s ∧ AL.get? s.insts ik.short = some i ∧
    i.clientId = c ∧ c ≠ "" ∧ (i.fromGrpc = true ∨ i.fromCluster > 0)

structure Inv (n : Naming) : Prop where
  svcKeys : AL.NodupKeys n.services
  svcs : ∀ k s, AL.get? n.services k = some s → SvcInv s
  idxNodup : n.nsIndex.Nodup
  idx : ∀ k, k ∈ n.nsIndex ↔ (AL.get? n.services k).isSome = true
  clients : ∀ c ks, AL.get? n.clientSets c = some ks → ks.Nodup ∧ ∀ ik ∈ ks, Owned n c ik

/-- every entry point hands in instances whose client id is empty unless they come from a gRPC
connection or from another node (HTTP handlers never set a client id) -/
def OriginOK (i : Inst) : Prop := i.clientId ≠ "" → (i.fromGrpc = true ∨ i.fromCluster > 0)

theorem inv_empty : Inv {} :=
  ⟨by simp [AL.NodupKeys], by intro k s h; simp at h, by simp, by intro k; simp, by intro c ks h; simp at h⟩

/-! ### the instance under a service and an address -/

def Naming.find? (n : Naming) (ik : IKey) : Option Inst :=
  (AL.get? n.services ik.skey).bind fun s => AL.get? s.insts ik.short

theorem find?_eq_some {n : Naming} {ik : IKey} {i : Inst} :
    n.find? ik = some i ↔ ∃ s, AL.get? n.services ik.skey = some s ∧ AL.get? s.insts ik.short = some i := by
  unfold Naming.find?
  cases AL.get? n.services ik.skey <;> simp

theorem find?_of_get? {n : Naming} {k : SKey} {s : Svc} (hg : AL.get? n.services k = some s) (key : ShortKey) :
    n.find? ⟨k, key⟩ = AL.get? s.insts key := by
  unfold Naming.find?; rw [hg]; rfl

/-- one service key changes (to `o'`; the hypothesis is that of `Inv.update`) -/
theorem find?_update {n n' : Naming} {k : SKey} {o' : Option Svc}
    (hget : ∀ k2, AL.get? n'.services k2 = if k = k2 then o' else AL.get? n.services k2) (ik : IKey) :
    n'.find? ik = if k = ik.skey then o'.bind (AL.get? ·.insts ik.short) else n.find? ik := by
  unfold Naming.find?
  rw [hget]
  split <;> rfl

theorem find?_setService {n n' : Naming} {k : SKey} {s' : Svc} (h : n'.services = AL.set n.services k s') (ik : IKey) :
    n'.find? ik = if k = ik.skey then AL.get? s'.insts ik.short else n.find? ik :=
  find?_update (n := n) (o' := some s') (fun k2 => by rw [h, AL.get?_set]) ik

/-- the bridge from the equation `get?_<op>` of an operation on one service (`hs'`) to the `find?_<op>` of the registry -/
theorem find?_setService_at {n n' : Naming} {k : SKey} {s s' : Svc} {key : ShortKey} {o' : Option Inst}
    (h : n'.services = AL.set n.services k s') (hg : AL.get? n.services k = some s)
    (hs' : ∀ k2, AL.get? s'.insts k2 = if key = k2 then o' else AL.get? s.insts k2) (ik : IKey) :
    n'.find? ik = if (⟨k, key⟩ : IKey) = ik then o' else n.find? ik := by
  rw [find?_setService h, hs']
  obtain ⟨k1, k2⟩ := ik
  by_cases e1 : k = k1
  · subst e1
    by_cases e2 : key = k2
    · subst e2; simp
    · simp [e2, find?_of_get? hg]
  · simp [e1]

/-! ### the reverse map -/

/-- what `Owned` asks of the instance; also what `recordClient` tests before it records an instance for `c` -/
def OwnedBy (c : String) (i : Inst) : Prop := i.clientId = c ∧ c ≠ "" ∧ (i.fromGrpc = true ∨ i.fromCluster > 0)

instance (c : String) (i : Inst) : Decidable (OwnedBy c i) := inferInstanceAs (Decidable (_ ∧ _ ∧ _))

theorem OwnedBy.not_timeout {c : String} {i : Inst} (h : OwnedBy c i) : i.enableTimeout = false := by
  unfold Inst.enableTimeout
  rcases h.2.2 with h | h <;> simp [h]

/-- the addresses recorded for the client `c` -/
def recs (cs : List (String × List IKey)) (c : String) : List IKey := (AL.get? cs c).getD []

/-- the reverse-map clause of `Inv` (`Inv.clients`, by `clients_iff`) read through `recs` and `find?` -/
def Recorded (n : Naming) (cs : List (String × List IKey)) : Prop :=
  ∀ c, (recs cs c).Nodup ∧ ∀ ik ∈ recs cs c, ∃ i, n.find? ik = some i ∧ OwnedBy c i

theorem clients_iff {n : Naming} {cs : List (String × List IKey)} :
    (∀ c ks, AL.get? cs c = some ks → ks.Nodup ∧ ∀ ik ∈ ks, Owned n c ik) ↔ Recorded n cs := by
  have ho : ∀ c ik, Owned n c ik ↔ ∃ i, n.find? ik = some i ∧ OwnedBy c i := fun c ik => by
    simp only [Owned, find?_eq_some, OwnedBy]
    exact ⟨fun ⟨s, i, h1, h2, h3⟩ => ⟨i, ⟨s, h1, h2⟩, h3⟩, fun ⟨i, ⟨s, h1, h2⟩, h3⟩ => ⟨s, i, h1, h2, h3⟩⟩
  refine forall_congr' fun c => ?_
  unfold recs
  cases AL.get? cs c with
  | none => simp
  | some ks => simp only [ho, Option.some.injEq, forall_eq', Option.getD_some]

theorem Inv.recorded {n : Naming} (h : Inv n) : Recorded n n.clientSets := clients_iff.1 h.clients

theorem Inv.ownedBy_of_mem_recs {n : Naming} (h : Inv n) {c : String} {ik : IKey} {i : Inst} (hm : ik ∈ recs n.clientSets c)
    (hf : n.find? ik = some i) : OwnedBy c i := by
  obtain ⟨j, hj, ho⟩ := (h.recorded c).2 ik hm
  rw [hf] at hj; cases hj; exact ho

/-- for the operations that leave the reverse map alone: all they owe is `hk`, that an instance a client owns is still
there and still that client's -/
theorem Inv.clients_keep {n n' : Naming} (h : Inv n) (hcs : n'.clientSets = n.clientSets)
    (hk : ∀ ik c i, n.find? ik = some i → OwnedBy c i → ∃ i', n'.find? ik = some i' ∧ OwnedBy c i') :
    Recorded n' n'.clientSets := by
  intro c
  rw [hcs]
  refine ⟨(h.recorded c).1, fun ik hik => ?_⟩
  obtain ⟨i, hi, ho⟩ := (h.recorded c).2 ik hik
  exact hk ik c i hi ho

theorem recs_clientRemoveKey (cs : List (String × List IKey)) (c c2 : String) (ik : IKey) :
    recs (clientRemoveKey cs c ik) c2 = if c = c2 then (recs cs c2).erase ik else recs cs c2 := by
  unfold recs clientRemoveKey
  by_cases e : c = c2
  · subst e; cases hg : AL.get? cs c <;> simp [hg]
  · cases AL.get? cs c <;> simp [e, AL.get?_set]

theorem recs_dropReplaced (cs : List (String × List IKey)) (ik : IKey) (d : Option String) (c2 : String) :
    recs (dropReplaced cs ik d) c2 = if d = some c2 then (recs cs c2).erase ik else recs cs c2 := by
  cases d with
  | none => simp [dropReplaced]
  | some c => simp only [dropReplaced, recs_clientRemoveKey, Option.some.injEq]

theorem recs_recordClient (cs : List (String × List IKey)) (ik : IKey) (fin : Inst) (c2 : String) :
    recs (recordClient cs ik (some fin)) c2 = if OwnedBy c2 fin then setInsert (recs cs c2) ik else recs cs c2 := by
  have ho : OwnedBy c2 fin ↔
      ((fin.fromGrpc || fin.fromCluster > 0) && !fin.clientId.isEmpty) = true ∧ fin.clientId = c2 :=
    and_comm.trans (and_congr_left fun e => by subst e; simp [and_comm])
  unfold recs recordClient
  simp only [ho]
  split
  · simp only [AL.get?_set, *, true_and]
    split
    · next e => subst e; rfl
    · rfl
  · simp [*]

theorem recs_erase (cs : List (String × List IKey)) (c c2 : String) :
    recs (AL.erase cs c) c2 = if c = c2 then [] else recs cs c2 := by
  unfold recs
  rw [AL.get?_erase]
  split <;> rfl

/-! The clause of `Recorded` for one client, through the two updates of the map: no duplicates, and what is listed was
listed before or is the address in hand. -/

theorem recs_recordClient_sub {cs : List (String × List IKey)} {c : String} (hn : (recs cs c).Nodup) (ik : IKey)
    (fin : Inst) :
    (recs (recordClient cs ik (some fin)) c).Nodup ∧
      ∀ x ∈ recs (recordClient cs ik (some fin)) c, x ∈ recs cs c ∨ x = ik ∧ OwnedBy c fin := by
  rw [recs_recordClient]
  split
  · next ho => exact ⟨nodup_setInsert _ _ hn, fun x hx => ((mem_setInsert _ _ _).1 hx).symm.imp_right (⟨·, ho⟩)⟩
  · exact ⟨hn, fun x hx => Or.inl hx⟩

theorem recs_dropReplaced_sub {cs : List (String × List IKey)} {c : String} (hn : (recs cs c).Nodup) (ik : IKey)
    (d : Option String) :
    (recs (dropReplaced cs ik d) c).Nodup ∧
      ∀ x ∈ recs (dropReplaced cs ik d) c, x ∈ recs cs c ∧ (d = some c → x ≠ ik) := by
  rw [recs_dropReplaced]
  split
  · exact ⟨hn.erase _, fun x hx => ⟨List.mem_of_mem_erase hx, fun _ => (hn.mem_erase_iff.1 hx).1⟩⟩
  · next e => exact ⟨hn, fun x hx => ⟨hx, fun h => absurd h e⟩⟩

/-! ### the invariant under a change of one service -/

/-- The reverse map is left to the caller (`hcs`): it moves differently in every operation. -/
theorem Inv.update {n n' : Naming} (h : Inv n) (k : SKey) (o' : Option Svc)
    (hget : ∀ k2, AL.get? n'.services k2 = if k = k2 then o' else AL.get? n.services k2)
    (hnd : AL.NodupKeys n'.services) (hs' : ∀ s', o' = some s' → SvcInv s')
    (hix : n'.nsIndex = if o'.isSome = (AL.get? n.services k).isSome then n.nsIndex
      else if o'.isSome then setInsert n.nsIndex k else n.nsIndex.erase k)
    (hcs : Recorded n' n'.clientSets) : Inv n' := by
  have hl := listed_update (P' := fun k2 => (AL.get? n'.services k2).isSome = true) h.idxNodup h.idx k o'.isSome
    (AL.get? n.services k).isSome Iff.rfl fun k2 => by rw [hget]; split <;> rfl
  rw [← hix] at hl
  refine ⟨hnd, fun k2 s2 h2 => ?_, hl.1, hl.2, clients_iff.2 hcs⟩
  rw [hget] at h2
  split at h2
  · exact hs' s2 h2
  · exact h.svcs k2 s2 h2

theorem Inv.setService {n n' : Naming} (h : Inv n) {k : SKey} {s s' : Svc} (hg : AL.get? n.services k = some s)
    (hsv : n'.services = AL.set n.services k s') (hix : n'.nsIndex = n.nsIndex) (hs' : SvcInv s')
    (hcs : Recorded n' n'.clientSets) : Inv n' :=
  h.update k (some s') (fun k2 => by rw [hsv, AL.get?_set]) (hsv ▸ AL.nodupKeys_set _ _ _ h.svcKeys)
    (fun _ e => by cases e; exact hs') (by rw [hix, hg]; rfl) hcs

/-- `Inv.setService` for an operation that leaves the reverse map alone (`Inv.clients_keep`, `hk` within the service) -/
theorem Inv.setService_keep {n n' : Naming} (h : Inv n) {k : SKey} {s s' : Svc} (hg : AL.get? n.services k = some s)
    (hsv : n'.services = AL.set n.services k s') (hix : n'.nsIndex = n.nsIndex) (hcs : n'.clientSets = n.clientSets)
    (hs' : SvcInv s')
    (hk : ∀ key c i, AL.get? s.insts key = some i → OwnedBy c i → ∃ i', AL.get? s'.insts key = some i' ∧ OwnedBy c i') :
    Inv n' :=
  h.setService hg hsv hix hs' <| h.clients_keep hcs fun ik c i hi ho => by
    rw [find?_setService hsv]
    split
    · next e => exact hk _ c i ((find?_of_get? (e ▸ hg) _).symm.trans hi) ho
    · exact ⟨i, hi, ho⟩

theorem get?_ensureService (n : Naming) (k : SKey) (now : Int) (k2 : SKey) :
    AL.get? (n.ensureService k now).services k2 =
      if k = k2 then some ((AL.get? n.services k).getD {}) else AL.get? n.services k2 := by
  unfold Naming.ensureService
  cases hg : AL.get? n.services k with
  | some s => exact AL.get?_ite_of_eq hg k2
  | none => exact AL.get?_set _ _ _ _

theorem get?_ensureService_same (n : Naming) (k : SKey) (now : Int) :
    AL.get? (n.ensureService k now).services k = some ((AL.get? n.services k).getD {}) :=
  (get?_ensureService n k now k).trans (if_pos rfl)

theorem ensureService_has (n : Naming) (k : SKey) (now : Int) :
    (AL.get? (n.ensureService k now).services k).isSome = true := by
  rw [get?_ensureService_same]; rfl

theorem find?_ensureService (n : Naming) (k : SKey) (now : Int) (ik : IKey) :
    (n.ensureService k now).find? ik = n.find? ik := by
  rw [find?_update (get?_ensureService n k now)]
  split
  · next e => subst e; unfold Naming.find?; cases AL.get? n.services ik.skey <;> rfl
  · rfl

theorem inv_ensureService (n : Naming) (k : SKey) (now : Int) (h : Inv n) : Inv (n.ensureService k now) := by
  have hf := find?_ensureService n k now
  unfold Naming.ensureService at hf ⊢
  cases hg : AL.get? n.services k with
  | some s => exact h
  | none =>
    rw [hg] at hf
    exact h.update k (some {}) (fun k2 => AL.get?_set _ _ _ _) (AL.nodupKeys_set _ _ _ h.svcKeys)
      (fun _ e => by cases e; exact svcInv_empty) (by rw [hg]; rfl) (h.clients_keep rfl fun ik c i hi ho => ⟨i, (hf ik).trans hi, ho⟩)

/-! ### `update_instance` -/

/-- the instance an update stores still belongs to the client the replaced one was recorded for, unless that entry
is dropped: either the update inherits the owner (`keepOwner`) or it names the same client itself, and then `OriginOK`
says that it comes from a connection or another node, as a recorded instance must -/
theorem merge_ownedBy {s : Svc} {inst old : Inst} {tag : Option Tag} {fs : Bool} {c : String} (horig : OriginOK inst)
    (hg : AL.get? s.insts inst.short = some old) (ho : OwnedBy c old)
    (hd : (s.updateInstance inst tag fs).2.2 ≠ some c) : OwnedBy c (s.merge inst tag) := by
  obtain ⟨rfl, hc, hfl⟩ := ho
  obtain ⟨f1, f2, f3⟩ := applyTag_owner (keepOwner inst old) old tag
  unfold OwnedBy
  rw [merge_of_some hg, f1, f2, f3]
  rw [updateInstance_replaced, hg, Option.bind_some] at hd
  unfold keepOwner at hd ⊢
  split
  · exact ⟨rfl, hc, hfl⟩
  · next hk =>
    rw [if_neg hk] at hd
    have hid : inst.clientId = old.clientId := Classical.byContradiction fun hx => hd (if_pos (by simp [hx, hc]))
    exact ⟨hid, hc, horig (hid ▸ hc)⟩

theorem find?_putInstance {n : Naming} {k : SKey} {svc : Svc} (hg : AL.get? n.services k = some svc) (inst : Inst)
    (tag : Option Tag) (fs : Bool) (ik : IKey) :
    (n.putInstance k svc inst tag fs).find? ik =
      if (⟨k, inst.short⟩ : IKey) = ik then some (svc.merge inst tag) else n.find? ik :=
  find?_setService_at rfl hg (get?_updateInstance svc inst tag fs) ik

theorem putInstance_clientSets (n : Naming) (k : SKey) (svc : Svc) (inst : Inst) (tag : Option Tag) (fs : Bool) :
    (n.putInstance k svc inst tag fs).clientSets =
      dropReplaced (recordClient n.clientSets ⟨k, inst.short⟩ (some (svc.merge inst tag))) ⟨k, inst.short⟩
        (svc.updateInstance inst tag fs).2.2 := by
  show dropReplaced (recordClient _ _ (AL.get? (svc.updateInstance inst tag fs).1.insts inst.short)) _ _ = _
  rw [get?_updateInstance, if_pos rfl]

theorem inv_putInstance (n : Naming) (k : SKey) (svc : Svc) (inst : Inst) (tag : Option Tag) (fs : Bool)
    (h : Inv n) (hg : AL.get? n.services k = some svc) (horig : OriginOK inst) :
    Inv (n.putInstance k svc inst tag fs) := by
  refine h.setService hg rfl rfl (svcInv_updateInstance svc inst tag fs (h.svcs k svc hg)) fun c => ?_
  obtain ⟨hn, ho⟩ := h.recorded c
  obtain ⟨hn1, h1⟩ := recs_recordClient_sub hn ⟨k, inst.short⟩ (svc.merge inst tag)
  obtain ⟨hn2, h2⟩ := recs_dropReplaced_sub hn1 ⟨k, inst.short⟩ (svc.updateInstance inst tag fs).2.2
  rw [putInstance_clientSets]
  refine ⟨hn2, fun ik hik => ?_⟩
  obtain ⟨hm, hd⟩ := h2 ik hik
  rw [find?_putInstance hg]
  split
  · next e =>
    -- listed because the stored instance is `c`'s, or listed before and not dropped: then it still is `c`'s
    refine ⟨_, rfl, (h1 ik hm).elim (fun hm => ?_) (·.2)⟩
    obtain ⟨old, hold, hob⟩ := ho _ hm
    exact merge_ownedBy horig ((find?_of_get? hg _).symm.trans (e ▸ hold)) hob fun hd' => hd hd' e.symm
  · next e => exact ho ik ((h1 ik hm).resolve_right fun h => e h.1.symm)

theorem stampLocal_origin (n : Naming) (inst : Inst) (hash : Nat) (h : OriginOK inst) :
    OriginOK (n.stampLocal inst hash) := by
  unfold Naming.stampLocal
  split
  · intro hne; exact absurd rfl hne
  · exact h

theorem stampLocal_short (n : Naming) (inst : Inst) (hash : Nat) : (n.stampLocal inst hash).short = inst.short := by
  unfold Naming.stampLocal; split <;> rfl

/-- the `none` branch of the model is dead: `ensureService` has put a service under `k` -/
theorem updateInstance_eq_putInstance (n : Naming) (k : SKey) (inst : Inst) (tag : Option Tag) (fs : Bool) (now : Int)
    (hash : Nat) :
    n.updateInstance k inst tag fs now hash =
      (n.ensureService k now).putInstance k ((AL.get? n.services k).getD {})
        ((n.ensureService k now).stampLocal { inst with lastModified := now } hash) tag fs := by
  unfold Naming.updateInstance
  rw [get?_ensureService_same]

theorem find?_updateInstance (n : Naming) (k : SKey) (inst : Inst) (tag : Option Tag) (fs : Bool) (now : Int)
    (hash : Nat) (ik : IKey) :
    (n.updateInstance k inst tag fs now hash).find? ik =
      if (⟨k, inst.short⟩ : IKey) = ik then some (((AL.get? n.services k).getD {}).merge
        ((n.ensureService k now).stampLocal { inst with lastModified := now } hash) tag)
      else n.find? ik := by
  rw [updateInstance_eq_putInstance, find?_putInstance (get?_ensureService_same n k now), find?_ensureService,
    stampLocal_short]
  rfl  -- `lastModified` is no part of the address

theorem inv_updateInstance (n : Naming) (k : SKey) (inst : Inst) (tag : Option Tag) (fs : Bool) (now : Int)
    (hash : Nat) (h : Inv n) (horig : OriginOK inst) : Inv (n.updateInstance k inst tag fs now hash) := by
  rw [updateInstance_eq_putInstance]
  exact inv_putInstance _ k _ _ tag fs (inv_ensureService n k now h) (get?_ensureService_same n k now)
    (stampLocal_origin _ _ _ horig)

/-! ### removal -/

theorem removeInstance_none {n : Naming} {k : SKey} (hg : AL.get? n.services k = none) (short : ShortKey)
    (c : Option String) (now : Int) : n.removeInstance k short c now = (n, none) := by
  unfold Naming.removeInstance; rw [hg]

theorem removeInstance_services {n : Naming} {k : SKey} {svc : Svc} (hg : AL.get? n.services k = some svc)
    (short : ShortKey) (c : Option String) (now : Int) :
    (n.removeInstance k short c now).1.services = AL.set n.services k (svc.removeInstance short c now).1 := by
  unfold Naming.removeInstance; rw [hg]

theorem find?_removeInstance (n : Naming) (k : SKey) (short : ShortKey) (c : Option String) (now : Int) (ik : IKey) :
    (n.removeInstance k short c now).1.find? ik =
      if (⟨k, short⟩ : IKey) = ik then (n.find? ⟨k, short⟩).filter (·.guarded c) else n.find? ik := by
  cases hg : AL.get? n.services k with
  | none =>
    rw [removeInstance_none hg]
    split
    · next e => rw [← e, Naming.find?, hg]; rfl
    · rfl
  | some svc =>
    rw [find?_setService_at (removeInstance_services hg short c now) hg (get?_removeInstance svc short · c now),
      find?_of_get? hg]

theorem removeInstance_clientSets {n : Naming} {k : SKey} {svc : Svc} (hg : AL.get? n.services k = some svc)
    (short : ShortKey) (c : Option String) (now : Int) :
    (n.removeInstance k short c now).1.clientSets = dropReplaced n.clientSets ⟨k, short⟩
      ((svc.removeInstance short c now).2.bind fun o => if o.clientId.isEmpty then none else some o.clientId) := by
  unfold Naming.removeInstance; rw [hg]
  simp only
  cases (svc.removeInstance short c now).2 with
  | none => rfl
  | some old => simp only [Option.bind_some]; cases old.clientId.isEmpty <;> rfl

theorem inv_removeInstance (n : Naming) (k : SKey) (short : ShortKey) (c : Option String) (now : Int)
    (h : Inv n) : Inv (n.removeInstance k short c now).1 := by
  cases hg : AL.get? n.services k with
  | none => rw [removeInstance_none hg]; exact h
  | some svc =>
    refine h.setService hg (removeInstance_services hg short c now) (by unfold Naming.removeInstance; rw [hg])
      (svcInv_removeInstance svc short c now (h.svcs k svc hg)) fun c2 => ?_
    obtain ⟨hn, ho⟩ := h.recorded c2
    rw [removeInstance_clientSets hg]
    refine ⟨(recs_dropReplaced_sub hn _ _).1, fun ik hik => ?_⟩
    obtain ⟨hm, hd⟩ := (recs_dropReplaced_sub hn _ _).2 ik hik
    obtain ⟨i, hi, hob⟩ := ho ik hm
    refine ⟨i, ?_, hob⟩
    rw [find?_removeInstance]
    split
    · next e =>
      -- what is removed was recorded for its own client only, and that entry is erased
      subst e
      rw [hi, Option.filter_some, if_pos]
      refine Classical.byContradiction fun hgd => hd ?_ rfl
      rw [removeInstance_snd, ← find?_of_get? hg, hi, Option.filter_some, if_pos (by simpa using hgd)]
      simp [hob.1, hob.2.1]
    · exact hi

theorem inv_raftRemove (n : Naming) (k : SKey) (short : ShortKey) (now : Int) (h : Inv n) : Inv (n.raftRemove k short now) := by
  unfold Naming.raftRemove
  split
  · exact h
  · split
    · split
      · exact h
      · exact inv_removeInstance n k short none now h
    · exact inv_removeInstance n k short none now h

theorem inv_diffClientData (n : Naming) (data : List (String × List IKey)) (now : Int) (h : Inv n) :
    Inv (n.diffClientData data now).1 :=
  List.foldlRecOn _ _ h fun acc ha ik _ => inv_removeInstance acc ik.skey ik.short none now ha

theorem inv_removeClient (n : Naming) (c : String) (now : Int) (h : Inv n) : Inv (n.removeClient c now) := by
  unfold Naming.removeClient
  cases AL.get? n.clientSets c with
  | none => exact h
  | some keys =>
    refine List.foldlRecOn keys _ ?_ fun acc ha ik _ => ?_
    · refine ⟨h.svcKeys, h.svcs, h.idxNodup, h.idx, clients_iff.2 fun c2 => ?_⟩
      show (recs (AL.erase n.clientSets c) c2).Nodup ∧ _
      rw [recs_erase]
      split
      · simp
      · exact h.recorded c2
    · unfold Naming.removeClientStep
      split
      · exact ha
      · exact inv_removeInstance acc _ _ _ _ ha

/-! ### time check -/

theorem inv_timeCheckStep (now : Int) (acc : Naming) (e : SKey × Svc) (h : Inv acc) :
    Inv (Naming.timeCheckStep now acc e) := by
  unfold Naming.timeCheckStep
  cases hg : AL.get? acc.services e.1 with
  | none => exact h
  | some svc =>
    -- `time_check` removes instances without looking at the reverse map; what is recorded there comes from a connection
    -- or another node and is outside the heartbeat clock
    exact h.setService_keep hg rfl rfl rfl (svcInv_timeCheck svc _ _ _ (h.svcs _ _ hg)) fun key c i hi ho =>
      ⟨i, timeCheck_keeps _ _ _ _ _ _ hi ho.not_timeout, ho⟩

theorem inv_timeCheck (n : Naming) (now : Int) (h : Inv n) : Inv (n.timeCheck now) :=
  List.foldlRecOn n.services _ h fun acc ha e _ => inv_timeCheckStep now acc e ha

/-! ### dropping empty services -/

theorem inv_clearOneEmpty (n : Naming) (k : SKey) (now : Int) (h : Inv n) : Inv (n.clearOneEmpty k now) := by
  unfold Naming.clearOneEmpty
  cases hg : AL.get? n.services k with
  | none => exact h
  | some svc =>
    simp only
    split
    · next hcond =>
      have hempty : svc.insts = [] := (h.svcs k svc hg).insts_nil (of_decide_eq_true (Bool.and_eq_true_iff.1 hcond).1)
      refine h.update k none (AL.get?_erase _ _) (AL.nodupKeys_erase _ _ h.svcKeys) (fun _ e => nomatch e) (by rw [hg]; rfl)
        (h.clients_keep rfl fun ik c i hi ho => ⟨i, ?_, ho⟩)
      -- the dropped service holds no instance
      rw [find?_update (AL.get?_erase _ _)]
      split
      · next e => simp [Naming.find?, ← e, hg, hempty] at hi
      · exact hi
    · exact h

theorem inv_removeService (n : Naming) (k : SKey) (h : Inv n) : Inv (n.removeService k).1 := by
  unfold Naming.removeService
  cases hg : AL.get? n.services k with
  | none => exact h
  | some svc =>
    simp only
    split
    · exact inv_clearOneEmpty n k _ h
    · exact h

/-! ### the result of a host probe (`PerpetualHostSniffing`) -/

theorem inv_probe (n : Naming) (k : SKey) (short : ShortKey) (ok : Bool) (h : Inv n) : Inv (n.probe k short ok) := by
  unfold Naming.probe
  cases hg : AL.get? n.services k with
  | none => exact h
  | some svc =>
    have hsvc : SvcInv (if ok then svc.probeValid short else svc.markUnhealthy short) := by
      split
      · exact svcInv_probeValid svc short (h.svcs _ _ hg)
      · exact svcInv_markUnhealthy svc short (h.svcs _ _ hg)
    exact h.setService_keep hg rfl rfl rfl hsvc fun key c i hi ho =>
      let ⟨_, hb⟩ := probe_changes_healthy_only svc short key ok i hi
      ⟨_, hb, ho⟩

/-! ### a change of the process range (`ClusterRefreshProcessRange`) -/

theorem refreshRange_services (n : Naming) (r : Nat × Nat) (hashOf : SKey → Nat) :
    (n.refreshRange r hashOf).services =
      n.services.map fun e => (e.1, if isRange r (hashOf e.1) then e.2.refreshRange else e.2) :=
  List.map_congr_left fun e _ => by split <;> rfl

theorem get?_refreshRange (n : Naming) (r : Nat × Nat) (hashOf : SKey → Nat) (k : SKey) :
    AL.get? (n.refreshRange r hashOf).services k =
      (AL.get? n.services k).map fun v => if isRange r (hashOf k) then v.refreshRange else v := by
  rw [refreshRange_services]
  exact AL.get?_mapVals n.services (fun e => if isRange r (hashOf e.1) then e.2.refreshRange else e.2) k

theorem find?_refreshRange (n : Naming) (r : Nat × Nat) (hashOf : SKey → Nat) (ik : IKey) :
    (n.refreshRange r hashOf).find? ik = n.find? ik := by
  unfold Naming.find?
  rw [get?_refreshRange]
  cases AL.get? n.services ik.skey with
  | none => rfl
  | some v => simp only [Option.map_some, Option.bind_some]; split <;> rfl

theorem inv_refreshRange (n : Naming) (r : Nat × Nat) (hashOf : SKey → Nat) (h : Inv n) :
    Inv (n.refreshRange r hashOf) := by
  refine ⟨?_, fun k s hs => ?_, h.idxNodup, fun k => ?_,
    clients_iff.2 (h.clients_keep rfl fun ik c i hi ho => ⟨i, (find?_refreshRange n r hashOf ik).trans hi, ho⟩)⟩
  · rw [refreshRange_services]; exact (AL.nodupKeys_mapVals _ _).2 h.svcKeys
  · rw [get?_refreshRange] at hs
    obtain ⟨v, hg, rfl⟩ := Option.map_eq_some_iff.1 hs
    split
    · exact svcInv_refreshRange v (h.svcs k v hg)
    · exact h.svcs k v hg
  · rw [get?_refreshRange, Option.isSome_map]; exact h.idx k

end RNacos.Naming
