import RNacos.Lemmas.MgrBasic
/-
`RaftLogManager::strip_log_to_index` (delete_logs_from) refines the list specification's `deleteFrom`:
exactly the entries from the cut on disappear, whichever files they live in; the file that holds the cut is the
open log afterwards.

`chain_cut` finds the file that holds an index `k` (`Cut`); `strip_log_to_index` and `split_off` (MgrSplit) both act on
that file, drop the files on one side of it and leave the other side alone, and `cut_filter` says what that does to
the visible log.
-/
namespace RNacos.LogManager
open RNacos.LogStore (Ent Store deleteFrom)

theorem recs_stripFile (k : Nat) (c : File) (hc : FileInv c) :
    (stripFile k c).recs = c.recs.filter (fun e => decide (e.index < k)) := by
  conv => rhs; rw [← List.take_append_drop (k - c.start) c.recs, List.filter_append]
  rw [List.filter_eq_self.2, List.filter_eq_nil_iff.2, List.append_nil, stripFile]
  · intro e he
    obtain ⟨j, hj, rfl⟩ := List.mem_drop_iff_getElem.1 he
    rw [hc.ok, decide_eq_true_eq]
    omega
  · intro e he
    obtain ⟨j, hj, rfl⟩ := List.mem_take_iff_getElem.1 he
    rw [hc.ok, decide_eq_true_eq]
    omega

theorem endIdx_strip (k : Nat) (c : File) (hs : c.start ≤ k) : endIdx (stripFile k c) = min (endIdx c) k := by
  simp only [stripFile, endIdx, List.length_take]
  rw [← Nat.add_min_add_left, Nat.add_sub_cancel' hs, Nat.min_comm]

theorem fileInv_strip (k : Nat) (c : File) (hc : FileInv c) (hs : c.splitOff ≤ k) :
    FileInv (stripFile k c) := by
  refine ⟨fun j hj => ?_, hc.lo, ?_⟩
  · simp only [stripFile, List.length_take] at hj
    simp only [stripFile, List.getElem_take]
    exact hc.ok j (Nat.lt_min.1 hj).2
  · rw [endIdx_strip k c (Nat.le_trans hc.lo hs)]
    exact Nat.le_min.2 ⟨hc.hi, hs⟩

theorem visible_strip (k : Nat) (c : File) (hc : FileInv c) :
    visible (stripFile k c) = (visible c).filter (fun e => decide (e.index < k)) := by
  rw [visible, recs_stripFile k c hc, List.filter_filter, visible, List.filter_filter]
  exact List.filter_congr fun e _ => Bool.and_comm _ _

/-- `c` is the file that holds index `k` (the last file, when `k` is beyond the end), `pre` the files that end at or below
`k`, `post` those whose visible range lies above `k`; each of the three facts is there a second time in the form in which
the loops of `strip_log_to_index` and `split_off` test it (`belowRangeEnd`: `k < get_log_range_end_index()`) -/
structure Cut (k : Nat) (pre : List File) (c : File) (post : List File) : Prop where
  pre_le : ∀ p ∈ pre, FileInv p ∧ endIdx p ≤ k
  pre_below : ∀ p ∈ pre, belowRangeEnd k p = false
  split_le : c.splitOff ≤ k
  below : belowRangeEnd k c = true
  lt_end : post ≠ [] → k < endIdx c
  post_lt : ∀ h ∈ post, k < h.splitOff
  post_below : ∀ h ∈ post, belowRangeEnd k h = true

theorem chain_cut (k : Nat) (fs : List File) (hc : Chain fs) (hne : fs ≠ [])
    (hlo : ∀ f0, fs.head? = some f0 → f0.splitOff ≤ k) :
    ∃ pre c post, fs = pre ++ c :: post ∧ Cut k pre c post := by
  induction fs with
  | nil => exact absurd rfl hne
  | cons f r ih =>
    obtain ⟨hfi, hbelow, hpost, -⟩ := chain_mem [] f r hc
    -- the cut file is the first one that is the last or reaches beyond `k`
    by_cases hcut : r = [] ∨ k < endIdx f
    · have hlt : r ≠ [] → k < endIdx f := hcut.resolve_left
      have hgt : ∀ h ∈ r, k < h.splitOff := fun h hh => Nat.lt_of_lt_of_le (hlt (List.ne_nil_of_mem hh)) (hpost h hh)
      exact ⟨[], f, r, rfl, {
        pre_le := by simp
        pre_below := by simp
        split_le := hlo f rfl
        lt_end := hlt
        below := (hbelow k).2 hcut
        post_lt := hgt
        post_below := fun h hh => by
          obtain ⟨a, b, rfl⟩ := List.append_of_mem hh
          obtain ⟨hhi, hhbelow, -⟩ := chain_mem (f :: a) h b hc
          exact (hhbelow k).2 (Or.inr (Nat.lt_of_lt_of_le (hgt h hh) hhi.hi)) }⟩
    · obtain ⟨g, r, rfl⟩ := List.exists_cons_of_ne_nil (fun h => hcut (Or.inl h))
      have hle : endIdx f ≤ k := Nat.not_lt.1 fun h => hcut (Or.inr h)
      obtain ⟨pre, c, post, hfs, h⟩ := ih (chain_tail f g r hc) (by simp) fun f0 h0 => by cases h0; exact hc.2.2.1 ▸ hle
      exact ⟨f :: pre, c, post, by rw [hfs]; rfl, { h with
        pre_le := List.forall_mem_cons.2 ⟨⟨hfi, hle⟩, h.pre_le⟩
        pre_below := List.forall_mem_cons.2 ⟨Bool.eq_false_iff.2 fun hb => hcut ((hbelow k).1 hb), h.pre_below⟩ }⟩

theorem cut_filter (k : Nat) (pre : List File) (c : File) (post : List File) (h : Cut k pre c post) :
    (absEnts (pre ++ c :: post)).filter (fun e => decide (e.index < k)) =
        absEnts pre ++ (visible c).filter (fun e => decide (e.index < k)) ∧
    (absEnts (pre ++ c :: post)).filter (fun e => decide (k ≤ e.index)) =
        (visible c).filter (fun e => decide (k ≤ e.index)) ++ absEnts post := by
  have h1 := absEnts_lt pre k h.pre_le
  have h2 := absEnts_ge post k fun g hg => Nat.le_of_lt (h.post_lt g hg)
  simp only [absEnts_append, absEnts_cons, List.filter_append]
  constructor
  · rw [List.filter_eq_self.2 fun e he => by simpa using h1 e he,
      (List.filter_eq_nil_iff (l := absEnts post)).2 fun e he => by simpa using h2 e he, List.append_nil]
  · rw [List.filter_eq_nil_iff.2 fun e he => by simpa using h1 e he,
      (List.filter_eq_self (l := absEnts post)).2 fun e he => by simpa using h2 e he, List.nil_append]

theorem stripLoop_cons (k : Nat) (f : File) (fs : List File) :
    stripLoop k (f :: fs) =
      (if belowRangeEnd k f then
         if k < f.start then ((stripLoop k fs).1 + 1, f :: (stripLoop k fs).2)
         else ((stripLoop k fs).1, stripFile k f :: (stripLoop k fs).2)
       else ((stripLoop k fs).1, f :: (stripLoop k fs).2)) := rfl

theorem stripLoop_below (k : Nat) (ps fs : List File) (h : ∀ p ∈ ps, belowRangeEnd k p = false) :
    stripLoop k (ps ++ fs) = ((stripLoop k fs).1, ps ++ (stripLoop k fs).2) := by
  induction ps with
  | nil => rfl
  | cons p ps ih => simp [stripLoop_cons, ih fun q hq => h q (by simp [hq]), h p (by simp)]

theorem stripLoop_above (k : Nat) (gs : List File) (h : ∀ g ∈ gs, belowRangeEnd k g = true ∧ k < g.start) :
    stripLoop k gs = (gs.length, gs) := by
  induction gs with
  | nil => rfl
  | cons g gs ih => simp [stripLoop_cons, ih fun x hx => h x (by simp [hx]), h g (by simp)]

theorem reopenLast_snoc (ys : List File) (l : File) :
    reopenLast (ys ++ [l]) = ys ++ [{ l with closed := false, count := 0 }] := by
  simp [reopenLast]

/-- the files in front of the cut and the cut file, stripped and open.  Its `count` (not read while a file is open) is
reset by `reopenLast` when files were dropped and stays what it was otherwise -/
theorem strip_cut (k : Nat) (pre : List File) (c : File) (post : List File) (p : Option (Nat × Nat))
    (h : Cut k pre c post) (hcs : c.start ≤ k) (hpost : ∀ g ∈ post, k < g.start) (hlast : post = [] → c.closed = false) :
    ∃ n, (strip ⟨pre ++ c :: post, p⟩ k).files = pre ++ [{ stripFile k c with closed := false, count := n }] := by
  have hloop : stripLoop k (pre ++ c :: post) = (post.length, pre ++ stripFile k c :: post) := by
    rw [stripLoop_below k pre _ h.pre_below, stripLoop_cons, if_pos h.below, if_neg (Nat.not_lt.2 hcs),
      stripLoop_above k post fun g hg => ⟨h.post_below g hg, hpost g hg⟩]
  by_cases hp : post = []
  · subst hp
    refine ⟨c.count, ?_⟩
    simp only [strip, hloop, List.length_nil, Nat.lt_irrefl, gt_iff_lt, if_false]
    congr 2
    simp [stripFile, hlast rfl]
  · refine ⟨0, ?_⟩
    have hpos : post.length > 0 := List.length_pos_iff.2 hp
    have : pre ++ stripFile k c :: post = (pre ++ [stripFile k c]) ++ post := by simp
    simp only [strip, hloop, hpos, if_true]
    rw [this, List.take_left' (by simp; omega), reopenLast_snoc]

/-- `strip_log_to_index` in terms of the log the catalogue shows.  Every hidden prefix ends at or below the cut (`hk`):
so the first file's visible range begins at or below `k` (with `hk0`, when it hides nothing), and a file behind the cut
hides nothing and lies wholly above it, `k < start`, which is what the loop tests before it drops a file.  Without `hk0`
a cut below the first start would drop every file; no index is expected then, where `deleteFrom` says `k` -/
theorem strip_sim (k : Nat) (fs : List File) (ents : List Ent) (nx : Option Nat) (p : Option (Nat × Nat))
    (h : Sim fs ents nx) (hne : fs ≠ [])
    (hk : ∀ f ∈ fs, f.start < f.splitOff → f.splitOff ≤ k)
    (hk0 : ∀ f0, fs.head? = some f0 → f0.start ≤ k) :
    Sim (strip ⟨fs, p⟩ k).files (ents.filter fun e => decide (e.index < k)) (nx.map (min · k)) := by
  obtain ⟨hc, rfl, rfl⟩ := h
  obtain ⟨pre, c, post, rfl, hcut⟩ := chain_cut k fs hc hne fun f0 h0 => by
    have := hk f0 (List.mem_of_head? h0); have := hk0 f0 h0
    omega
  obtain ⟨hci, -, -, hlast⟩ := chain_mem pre c post hc
  have hsk := hcut.split_le
  have hc0 : c.start ≤ k := Nat.le_trans hci.lo hsk
  have habove : ∀ g ∈ post, k < g.start := by
    intro g hg
    have := hcut.post_lt g hg; have := (chain_mem_inv _ hc g (by simp [hg])).lo; have := hk g (by simp [hg])
    omega
  have hnext : (absNext (pre ++ c :: post)).map (min · k) = some (min (endIdx c) k) := by
    rcases snoc_cases post with rfl | ⟨ys, l, rfl⟩
    · rw [absNext_snoc]; rfl
    · have := habove l (by simp); have := hcut.lt_end (by simp)
      have : l.start ≤ endIdx l := by simp [endIdx]
      rw [absNext_append pre _ (by simp), ← List.cons_append, absNext_snoc, Option.map_some]; congr 1; omega
  obtain ⟨m, hs⟩ := strip_cut k pre c post p hcut hc0 habove hlast
  rw [hs, (cut_filter k pre c post hcut).1, ← visible_strip k c hci, hnext, ← endIdx_strip k c hc0]
  exact sim_snoc (fileInv_flags _ (fileInv_strip k c hci hsk) _ _) rfl ((chain_append pre c post).1 hc).1

/-- **`strip_log_to_index` refines `deleteFrom`** (for a cut that is not below a hidden prefix - Raft never cuts below
the snapshot pointer): exactly the entries from `k` on disappear, the next expected index is `k` (or stays, when the
cut is beyond the end), and the catalogue is well formed again with the file that holds the cut as the open log -/
theorem strip_spec (fs : List File) (s : Store) (p : Option (Nat × Nat)) (h : Sim fs s.ents s.next) (hne : fs ≠ []) (k : Nat)
    (hk : ∀ f ∈ fs, f.start < f.splitOff → f.splitOff ≤ k)
    (hk0 : ∀ f0, fs.head? = some f0 → f0.start ≤ k) :
    Sim (strip ⟨fs, p⟩ k).files (deleteFrom s k).ents (deleteFrom s k).next := by
  cases hn : s.next with
  | none => exact absurd (sim_none.1 (hn ▸ h)).1 hne
  | some n =>
    rw [hn] at h
    obtain ⟨he, hx⟩ := LogStore.deleteFrom_eq s n k hn (sim_lt_next h)
    rw [he, hx]
    exact strip_sim k fs _ _ p h hne hk hk0

end RNacos.LogManager
