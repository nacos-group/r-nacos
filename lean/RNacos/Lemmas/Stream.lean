import RNacos.Spec.Stream
import RNacos.Lemmas.Varint
/-
The stream specification by itself: frames, and what any reader finds at the head of one. The lemmas stand in
`RNacos.BufReader` beside `frames`, but no reader occurs in them: `FileReader` and the log file use them as well.
-/
theorem RNacos.length_le_flatMap {α β : Type} {f : α → List β} (h : ∀ a, 0 < (f a).length) (l : List α) :
    l.length ≤ (l.flatMap f).length := by
  induction l with
  | nil => exact Nat.le_refl 0
  | cons a l ih =>
    rw [List.flatMap_cons, List.length_append, List.length_cons, Nat.add_comm]
    exact Nat.add_le_add (h a) ih

/-- two splits of one list: the shorter first part is a prefix of the longer -/
theorem RNacos.split_of_append_eq {α : Type} {a b c d : List α} (h : a ++ b = c ++ d) (hl : a.length ≤ c.length) :
    ∃ q, c = a ++ q ∧ b = q ++ d := by
  obtain ⟨q, rfl⟩ : a <+: c :=
    List.prefix_of_prefix_length_le (List.prefix_append a b) (h ▸ List.prefix_append c d) hl
  exact ⟨q, rfl, List.append_cancel_left (h.trans (List.append_assoc ..))⟩

namespace RNacos.BufReader
open RNacos.Varint RNacos.Spec.Stream

/-- the bytes of the records `bs`, frame after frame: `stream bs tail` without the tail -/
def frames (bs : List (List Nat)) : List Nat := (bs.map frame).flatten

theorem stream_eq (bs : List (List Nat)) (tail : List Nat) : stream bs tail = frames bs ++ tail := rfl

theorem frames_cons (b : List Nat) (bs : List (List Nat)) : frames (b :: bs) = frame b ++ frames bs := rfl

theorem stream_cons (b : List Nat) (bs : List (List Nat)) (tail : List Nat) :
    stream (b :: bs) tail = frame b ++ stream bs tail := List.append_assoc ..

theorem frames_append (a b : List (List Nat)) : frames (a ++ b) = frames a ++ frames b := by
  simp [frames]

theorem frame_length (b : List Nat) : (frame b).length = (vwrite b.length).length + b.length :=
  List.length_append

theorem frame_length_pos (b : List Nat) : 0 < (frame b).length :=
  List.length_pos_iff.2 (vwrite_append_ne_nil _ b)

theorem frames_length_ge (bs : List (List Nat)) : bs.length ≤ (frames bs).length :=
  length_le_flatMap frame_length_pos bs

theorem tailOK_cons {a : Nat} {t : List Nat} : TailOK (a :: t) ↔ a = 0 := by simp [TailOK]

/-- What a reader computes at the head of a frame: the size of the length prefix, the length it holds and, from the two
(the length modulo 2^64, as `read_varint64_offset` returns it), the size of the frame. -/
theorem frame_decode (b rest : List Nat) (hb : b.length < 2 ^ 64) :
    vlen (frame b ++ rest) = some (vwrite b.length).length ∧ vreadGo 10 (frame b ++ rest) = .ok b.length ∧
      (vwrite b.length).length + b.length % 2 ^ 64 = (frame b).length := by
  rw [frame, List.append_assoc, Nat.mod_eq_of_lt hb]
  exact ⟨vlen_vwrite _ _ hb, vreadGo_vwrite _ _ hb, List.length_append.symm⟩

theorem frame_head_ne_zero (b : List Nat) (hb : 0 < b.length) (rest : List Nat) :
    ∃ a t, frame b ++ rest = a :: t ∧ a ≠ 0 := by
  obtain ⟨a, t, h, ha⟩ := vwrite_cons b.length
  exact ⟨a, t ++ b ++ rest, by rw [frame, h]; rfl, ha hb⟩

theorem frame_head?_ne_zero (b : List Nat) (hb : 0 < b.length) (rest : List Nat) :
    (frame b ++ rest).head? ≠ some 0 := by
  obtain ⟨a, t, h, ha⟩ := frame_head_ne_zero b hb rest
  simpa [h] using ha

end RNacos.BufReader
