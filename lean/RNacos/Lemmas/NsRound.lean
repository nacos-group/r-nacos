import RNacos.Model.Namespace
/-
What `Props.C01.namespace_component_roundtrip` rests on: loading records with distinct ids, none of them present, appends
them as user entries, in order (`load_fresh`), and the served list reads them back (`userList_fresh`); the records of a
snapshot are of that kind and are the served list of the state it was taken from (`buildSnapshot_*`).
`set_independent_of_order` is the control for the known finding F32 (`Props.C01.namespace_addOnly_order_dependent`): on
the instance where `AddOnly` depends on whether the namespace's weak entry has arrived, `Set` does not.
-/
namespace RNacos.Namespace

def ids (s : State) : List String := s.map (·.1)

theorem set_absent (s : State) (id name : String) (h : id ∉ ids s) (hp : id ≠ "public") (he : id ≠ "") :
    setNamespace s id (some name) false false = s ++ [(id, ⟨name, fUser⟩)] := by
  have hf : s.find? (·.1 == id) = none :=
    List.find?_eq_none.2 fun x hx hc => h (List.mem_map.2 ⟨x, hx, by simpa using hc⟩)
  have ha : s.any (·.1 == id) = false := by rw [← List.isSome_find?, hf]; rfl
  simp [setNamespace, hp, he, get?, put, hf, ha]

theorem load_fresh (recs : List (String × String)) (st : State) (hnd : (ids st ++ recs.map (·.1)).Nodup)
    (hne : ∀ r ∈ recs, r.1 ≠ "public" ∧ r.1 ≠ "") :
    loadSnapshot st recs = st ++ recs.map fun r => (r.1, (⟨r.2, fUser⟩ : Ns)) := by
  induction recs generalizing st with
  | nil => simp [loadSnapshot]
  | cons r rs ih =>
    obtain ⟨⟨hp, he⟩, hne⟩ := List.forall_mem_cons.1 hne
    have hr : r.1 ∉ ids st := fun h => (List.nodup_append.1 hnd).2.2 _ h _ (List.mem_cons_self ..) rfl
    have := ih (st ++ [(r.1, ⟨r.2, fUser⟩)]) (by simpa [ids] using hnd) hne
    rw [loadSnapshot] at this ⊢
    rw [List.foldl_cons, set_absent st r.1 r.2 hr hp he, this]
    simp

theorem userList_append (a b : State) : userList (a ++ b) = userList a ++ userList b := by
  simp [userList, List.filter_append]

theorem userList_fresh (recs : List (String × String)) :
    userList (recs.map fun r => (r.1, (⟨r.2, fUser⟩ : Ns))) = recs := by
  have : hasFlag fUser fUser = true := by decide
  simp [userList, List.filter_map, Function.comp_def, this]

/-- the snapshot is the served list: the system entry is no user entry -/
theorem buildSnapshot_eq_userList (s : State) (hsys : ∀ e ∈ s, e.1 = "" → hasFlag e.2.flag fUser = false) :
    buildSnapshot s = userList s := by
  unfold buildSnapshot userList
  congr 1
  refine List.filter_congr fun e he => Bool.and_eq_right_iff_imp.2 fun hu => bne_iff_ne.2 fun h0 => ?_
  rw [hsys e he h0] at hu; cases hu

theorem buildSnapshot_ids_ne (s : State) (hpub : ∀ e ∈ s, e.1 ≠ "public") :
    ∀ r ∈ buildSnapshot s, r.1 ≠ "public" ∧ r.1 ≠ "" := by
  intro r hr
  simp only [buildSnapshot, List.mem_map, List.mem_filter, Bool.and_eq_true, bne_iff_ne, ne_eq] at hr
  obtain ⟨e, ⟨he, hne, _⟩, rfl⟩ := hr
  exact ⟨hpub e he, hne⟩

theorem buildSnapshot_nodup (s : State) (hnd : (ids s).Nodup) : ((buildSnapshot s).map (·.1)).Nodup := by
  rw [buildSnapshot, List.map_map]
  exact (List.filter_sublist.map _).nodup hnd

/-- `Set` does not: it creates the entry when there is none -/
theorem set_independent_of_order :
    userList (setWeak (apply initial (.set "ns2" (some "name34"))) "ns2" fConfig) =
    userList (apply (setWeak initial "ns2" fConfig) (.set "ns2" (some "name34"))) := by
  decide

/-- non-vacuity: a user namespace that is also in use (flag USER|CONFIG) goes through the round trip -/
example :
    let s := setWeak (apply (apply initial (.set "ns1" (some "Production"))) (.set "ns3" (some "x"))) "ns1" fConfig
    userList s = [("ns1", "Production"), ("ns3", "x")] ∧ userList (loadSnapshot initial (buildSnapshot s)) = userList s := by
  decide

end RNacos.Namespace
