import RNacos.Model.LogFile
import RNacos.Lemmas.Stream
/-
The `LogRecord` codec: what `write_message` writes is what `read_message` reads.
-/
namespace RNacos.LogFile
open RNacos.Varint RNacos.Spec.Stream
open RNacos.IndexFile (pVarint pBytes)

/-- a record the store can hold: u64 fields, a body whose length fits the prefix, and a non-zero index
(raft indexes start at 1; a record with index 0, term 0 and no payload would encode to the end marker) -/
def RecOK (r : Rec) : Prop :=
  0 < r.index ∧ r.index < 2 ^ 64 ∧ r.term < 2 ^ 64 ∧ r.value.length < 2 ^ 64 ∧ (recBody r).length < 2 ^ 64

theorem RecOK.body_lt {r : Rec} (h : RecOK r) : (recBody r).length < 2 ^ 64 := h.2.2.2.2

/-- a field as `write_message` writes it -/
def encField : RField → List Nat
  | .v tag val => vwrite tag ++ vwrite val
  | .b tag bytes => vwrite tag ++ (vwrite bytes.length ++ bytes)

/-- a field `from_reader` reads back: a tag of the field's wire type, a u64 value or length -/
def FieldOK : RField → Prop
  | .v tag val => tag < 2 ^ 64 ∧ tag % 8 = 0 ∧ val < 2 ^ 64
  | .b tag bytes => tag < 2 ^ 64 ∧ tag % 8 = 2 ∧ bytes.length < 2 ^ 64

theorem parseRec_encField (g : Nat) (f : RField) (rest : List Nat) (h : FieldOK f) :
    parseRec (g + 1) (encField f ++ rest) = (parseRec g rest).map (f :: ·) := by
  have hne (v : Nat) (l : List Nat) : (vwrite v ++ l).isEmpty = false :=
    List.isEmpty_eq_false_iff.2 (vwrite_append_ne_nil v l)
  cases f
  all_goals
    obtain ⟨ht, h8, hv⟩ := h
    rw [encField, parseRec]
    simp only [List.append_assoc, hne, Bool.false_eq_true, if_false, vlen_vwrite _ _ ht, vreadGo_vwrite _ _ ht,
      List.drop_left, h8, if_true, vlen_vwrite _ _ hv, vreadGo_vwrite _ _ hv]
  -- left over for a length-delimited field: its bytes are all there, and dropped with the length
  simp [← List.drop_drop]

theorem encField_length_pos (f : RField) : 0 < (encField f).length := by
  cases f <;> exact List.length_pos_iff.2 (vwrite_append_ne_nil _ _)

theorem parseRec_fields (fs : List RField) (h : ∀ f ∈ fs, FieldOK f) :
    ∀ fuel, fs.length ≤ fuel → parseRec fuel (fs.flatMap encField) = some fs := by
  induction fs with
  | nil => intro fuel _; cases fuel <;> rfl
  | cons f fs ih =>
    intro fuel hf
    obtain ⟨g, rfl⟩ := Nat.exists_eq_add_one_of_ne_zero (Nat.ne_zero_of_lt hf)
    obtain ⟨hf1, hfs⟩ := List.forall_mem_cons.1 h
    rw [List.flatMap_cons, parseRec_encField g f _ hf1, ih hfs g (Nat.le_of_succ_le_succ hf)]; rfl

theorem decRec_recBody (r : Rec) (h : RecOK r) : decRec (recBody r) = some r := by
  obtain ⟨index, term, value⟩ := r
  obtain ⟨hi0, hi, ht, hv, _⟩ := h
  -- the fields written: zero scalars and the empty value are left out
  have hb : recBody ⟨index, term, value⟩ = (RField.v 8 index :: ((if term = 0 then [] else [RField.v 16 term]) ++
      if value.isEmpty then [] else [RField.b 42 value])).flatMap encField := by
    simp only [recBody, pVarint, pBytes, Nat.ne_of_gt hi0, if_false]
    split <;> split <;> simp [encField]
  -- the fuel of `decRec`, a unit per byte of the body, covers the fields
  rw [hb, decRec, parseRec_fields _ _ _ (length_le_flatMap encField_length_pos _)]
  · -- once it is decided whether term and value are written, each look-up evaluates
    refine congrArg some ?_
    cases term <;> cases value <;> exact (Rec.mk.injEq ..).mpr ⟨Nat.mod_eq_of_lt hi, Nat.mod_eq_of_lt ht, rfl⟩
  · intro f hf
    simp only [List.mem_cons, List.mem_append, List.mem_ite_nil_left, List.not_mem_nil, or_false] at hf
    rcases hf with rfl | ⟨_, rfl⟩ | ⟨_, rfl⟩
    · exact ⟨by decide, by decide, hi⟩
    · exact ⟨by decide, by decide, ht⟩
    · exact ⟨by decide, by decide, hv⟩

theorem recBody_pos (r : Rec) (h : RecOK r) : 0 < (recBody r).length := by
  rw [recBody, pVarint, if_neg (Nat.ne_of_gt h.1), List.append_assoc, List.append_assoc, List.length_append]
  exact Nat.add_pos_left (vwrite_length_pos 8) _

theorem bodiesOK_of_recOK (es : List Rec) (h : ∀ r ∈ es, RecOK r) : BodiesOK (es.map recBody) := by
  intro b hb
  obtain ⟨r, hr, rfl⟩ := List.mem_map.mp hb
  exact ⟨recBody_pos r (h r hr), (h r hr).body_lt⟩

/-- **frame round trip**: `read_message` on the frame written for `r` -/
theorem decFrame_frame (r : Rec) (h : RecOK r) : decFrame (frame (recBody r)) = some r := by
  unfold decFrame frame
  rw [vlen_vwrite _ _ h.body_lt, vreadGo_vwrite _ _ h.body_lt]
  simp only [List.drop_left, List.take_length]
  exact decRec_recBody r h

end RNacos.LogFile
