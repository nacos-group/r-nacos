import RNacos.Lemmas.LogRec
import RNacos.Lemmas.FileReader
/-
The scans of a log file on a stream of records (`FileReader.At`, on which Lemmas/FileReader has
`readIndexPosition_stream`), and the record codec on the frames found.
-/
namespace RNacos.LogFile
open RNacos.Spec.Stream RNacos.FileReader RNacos.BufReader

variable {B : List Nat} {p : Nat} {bs : List (List Nat)} {tail : List Nat}

theorem scanFrames_stream (h : At ⟨B, p⟩ bs tail) (count : Nat) : scanFrames B p count = (bs.map frame).take count := by
  rw [scanFrames, show B.drop p = _ from h.eq]
  exact congrArg (List.take count) (specDecode_length bs tail h.bodies h.tailOK)

theorem moveByCount_stream (h : At ⟨B, p⟩ bs tail) (li start count : Nat) :
    moveByCount B ⟨li, p⟩ start count = (p + (frames (bs.take count)).length, li - start + min count bs.length) := by
  rw [moveByCount, scanFrames_stream h, ← List.map_take, List.length_map, List.length_take]
  rfl

theorem mapM_decFrame (es : List Rec) (hok : ∀ r ∈ es, RecOK r) :
    ((es.map recBody).map frame).mapM decFrame = some es := by
  induction es with
  | nil => rfl
  | cons r rs ih =>
    obtain ⟨hr, hrs⟩ := List.forall_mem_cons.1 hok
    rw [List.map_cons, List.map_cons, List.mapM_cons, decFrame_frame r hr, ih hrs]; rfl

end RNacos.LogFile
