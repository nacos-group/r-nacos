import RNacos.Lemmas.LogWF
/-
Opening a file that exists (`load`, what `LogInnerManager::init` does unless the file has length 0 and is created anew):
on the image of `es` with ANY prefix of its index area (`load_lagging`).
Reopening a well-formed file (`load_eq`) is the case of the complete index area; the crash states of C04 are the
cases of a shorter one (`load_lagging_wf`).
-/
namespace RNacos.LogFile
open RNacos.Varint
open RNacos.IndexFile (writeAt)

/-- `init` on a file that begins with a header and an index area filling the first 4096 bytes: if `read_indexs` finds
`(ixs, off)` in the area and the count from the last entry gives `(dc, mc)`, what remains is the repair and the
look-up of the last term on this state -/
theorem load_head (t fi I A : Nat) (area data : List Nat) (ht : t < 2 ^ 64) (hfi : fi < 2 ^ 64) (hI : I < 65536)
    (hA : A < 65536) (harea : 32 + area.length = dataStart) (fl start pre sp : Nat) (ixs : List Idx) (off dc mc : Nat)
    (hix : readIndexs area start I = (ixs, off))
    (hmv : moveByCount (header t fi I A ++ area ++ data) (ixs.getLast?.getD ⟨start, dataStart⟩) start 0xffff = (dc, mc)) :
    load (header t fi I A ++ area ++ data) fl start pre sp =
      initTerm (repairIndex (mc + 1)
        { bytes := header t fi I A ++ area ++ data, fileLen := fl, firstIndex := fi, hdrTerm := t, interval := I,
          areaEnd := A, indexs := ixs, startIndex := start, indexCursor := off + 32, dataCursor := dc, msgCount := mc,
          lastTerm := pre, curCount := if I = 0 then 0 else mc % I, splitOff := max sp start, pos := dc,
          needSeek := false }) pre := by
  have hl : (header t fi I A ++ area).length = dataStart := by rw [List.length_append, header_length]; exact harea
  have hhead : (header t fi I A ++ area ++ data ++
      List.replicate (dataStart - (header t fi I A ++ area ++ data).length) 0).take dataStart = header t fi I A ++ area := by
    rw [List.append_assoc (header t fi I A ++ area), ← hl, List.take_left]
  obtain ⟨h1, h2, h3, h4⟩ := header_fields t fi I A area ht hfi hI hA
  have hdrop : (header t fi I A ++ area).drop 32 = area := by rw [← header_length t fi I A, List.drop_left]
  unfold load
  simp only [hhead, h1, h2, h3, h4, hdrop, hix, hmv]

theorem repairIndex_done (fuel : Nat) (f : LogFile)
    (h : f.msgCount - ((lastIdx f).logIndex - f.startIndex) < f.interval) : repairIndex fuel f = f := by
  cases fuel with
  | zero => rfl
  | succ n => rw [repairIndex, if_pos (Or.inr h)]

theorem repairIndex_succ (n : Nat) (f : LogFile) (hI : f.interval ≠ 0) (e : Idx) (he : lastIdx f = e)
    (h : f.interval ≤ f.msgCount - (e.logIndex - f.startIndex)) (dc : Nat)
    (hmv : (moveByCount f.bytes e f.startIndex f.interval).1 = dc) :
    repairIndex (n + 1) f =
      repairIndex n { f with bytes := writeAt f.bytes f.indexCursor (vwrite (dc - e.fileIndex)),
                             indexCursor := f.indexCursor + (vwrite (dc - e.fileIndex)).length,
                             indexs := f.indexs ++ [⟨e.logIndex + f.interval, dc⟩] } := by
  subst he hmv
  rw [repairIndex, if_neg (by omega)]

/-- **the repair loop**: each round writes back the next missing offset step; it stops at the complete index area
(and writes nothing if nothing is missing) -/
theorem repairIndex_opened (f : LogFile) (es : List Rec) (h : WF f es) (fl pre sp : Nat) :
    ∀ (fuel j : Nat) (B : List Nat), j ≤ es.length / f.interval → es.length / f.interval < j + fuel →
      IsImage (hdr f) f.interval es j B →
      ∃ B', IsImage (hdr f) f.interval es (es.length / f.interval) B' ∧ (j = es.length / f.interval → B' = B) ∧
        repairIndex fuel (opened f es j B fl pre sp false) = opened f es (es.length / f.interval) B' fl pre sp false := by
  have hI := h.ivl
  have hqle : es.length / f.interval * f.interval ≤ es.length := Nat.div_mul_le_self _ _
  intro fuel
  induction fuel with
  | zero => intro j _ hj hf; omega
  | succ n ih =>
    intro j B hj hf hB
    rcases Nat.lt_or_eq_of_le hj with hjq | rfl
    · have hj1 : (j + 1) * f.interval ≤ es.length := Nat.le_trans (Nat.mul_le_mul_right _ hjq) hqle
      have hsm : (j + 1) * f.interval = j * f.interval + f.interval := Nat.succ_mul _ _
      have hmv := moveByCount_image hB h.recs f.startIndex (j * f.interval) f.interval (by omega)
      rw [← hsm, Nat.min_eq_left hj1] at hmv
      have hle : f.interval ≤ es.length - (f.startIndex + j * f.interval - f.startIndex) := by
        rw [Nat.add_sub_cancel_left]; exact Nat.le_sub_of_add_le' (hsm ▸ hj1)
      -- the repair writes the step where `write` wrote it, or would have: it has that write's room (`WF.room`)
      obtain ⟨B', hB', -, he⟩ := ih (j + 1) _ hjq (by omega) (hB.index (h.room j hjq) h.area)
      refine ⟨B', hB', fun e => absurd e (Nat.ne_of_lt hjq), ?_⟩
      rw [repairIndex_succ n (opened f es j B fl pre sp false) (Nat.ne_of_gt hI) _ (lastIdx_opened ..) hle _
        (congrArg Prod.fst hmv)]
      refine (congrArg (repairIndex n) ?_).trans he
      exact opened_step f es j _ _ fl pre sp false _ (by simp only [entry, opened, hsm, Nat.add_assoc])
    · refine ⟨B, hB, fun _ => rfl, repairIndex_done _ _ ?_⟩
      rw [lastIdx_opened]
      exact behind_last_lt _ _ es hI

/-- **`init` on an index area that lags the records**: a file that holds the records of `es` and the first `j` offset steps
of its index area opens as a well-formed file that holds `es`, with the complete index area (on the same bytes if nothing
was missing), provided the records behind the last entry present fit the scan limit of `init` (65535 records) -/
theorem load_lagging (f : LogFile) (es : List Rec) (h : WF f es) (j : Nat) (hj : j ≤ es.length / f.interval)
    (B : List Nat) (hB : IsImage (hdr f) f.interval es j B) (hscan : es.length - j * f.interval ≤ 0xffff)
    (fl pre sp : Nat) :
    ∃ B', WF (opened f es (es.length / f.interval) B' fl pre (max sp f.startIndex) false) es ∧
      (j = es.length / f.interval → B' = B) ∧
      load B fl f.startIndex pre sp =
        initTerm (opened f es (es.length / f.interval) B' fl pre (max sp f.startIndex) false) pre := by
  have hI := h.ivl
  have hjI : j * f.interval ≤ es.length :=
    Nat.le_trans (Nat.mul_le_mul_right _ hj) (Nat.div_mul_le_self _ _)
  have harea := h.area
  -- the scan from entry `j` reaches the end of the records; from the state it leaves, the repair completes the index area
  have hmv := moveByCount_image hB h.recs f.startIndex (j * f.interval) 0xffff hjI
  rw [Nat.min_eq_right (Nat.sub_le_iff_le_add'.mp hscan)] at hmv
  obtain ⟨B', hB', hjB, he⟩ := repairIndex_opened f es h fl pre (max sp f.startIndex) (es.length + 1) j B hj
    (by have := Nat.div_le_self es.length f.interval; omega) hB
  refine ⟨B', opened_wf h h.recs h.idx h.bound rfl (h.idxBytesUpTo_lt_areaEnd (Nat.le_refl _)) h.room hB' fl pre
    (Nat.le_max_right _ _) false rfl, hjB, ?_⟩
  -- `load` reaches that state: `read_indexs` finds the `j` entries, `load_head` does the rest
  obtain ⟨Z, z, rfl, hfit, hZ, -⟩ := hB
  have hix := readIndexs_layout f.startIndex f.interval es j Z hI hjI h.bound hZ harea hfit.2
    (h.idxBytesUpTo_lt_areaEnd hj) fun i hi => h.room i (Nat.lt_of_lt_of_le hi hj)
  have hl := load_head f.hdrTerm f.firstIndex f.interval f.areaEnd (idxBytesUpTo f.interval es j ++ Z) (dataBytes es ++ z)
    h.hdrOK.1 h.hdrOK.2 h.ivl16 (by unfold dataStart at harea; omega)
    (by rw [List.length_append, ← Nat.add_assoc]; exact hfit.2)
    fl f.startIndex pre sp _ _ (offsetOf es es.length) es.length hix (by rw [getLast_map_range]; exact hmv)
  rw [if_neg (Nat.ne_of_gt hI), Nat.add_comm _ 32] at hl
  exact hl.trans (congrArg (initTerm · pre) he)

/-- hence `init` yields a file that holds `es` even where a crash has left the index area behind the records (C04) -/
theorem load_lagging_wf (f : LogFile) (es : List Rec) (h : WF f es) (j : Nat) (hj : j ≤ es.length / f.interval)
    (B : List Nat) (hB : IsImage (hdr f) f.interval es j B) (hscan : es.length - j * f.interval ≤ 0xffff)
    (fl pre sp : Nat) : WF (load B fl f.startIndex pre sp) es := by
  obtain ⟨B', hw, -, he⟩ := load_lagging f es h j hj B hB hscan fl pre sp
  rw [he]
  exact initTerm_wf _ _ _ hw

/-- the state `init` computes from the bytes of a file holding `es`, before the last term is looked up -/
def reloaded (f : LogFile) (es : List Rec) (fl pre sp : Nat) : LogFile :=
  opened f es (es.length / f.interval) f.bytes fl pre (max sp f.startIndex) false

/-- **reopen**: `init` on the bytes of a well-formed file yields a well-formed file with the same entries,
whatever cursors the previous process had and whatever split-off the catalogue passes -/
theorem load_eq (f : LogFile) (es : List Rec) (h : WF f es) (fl pre sp : Nat) :
    load f.bytes fl f.startIndex pre sp = initTerm (reloaded f es fl pre sp) pre ∧ WF (reloaded f es fl pre sp) es := by
  obtain ⟨B', hw, hjB, he⟩ :=
    load_lagging f es h _ (Nat.le_refl _) _ h.image (Nat.le_of_lt h.behind_last_lt_scan) fl pre sp
  obtain rfl := hjB rfl
  exact ⟨he, hw⟩

theorem load_wf (f : LogFile) (es : List Rec) (h : WF f es) (fl pre sp : Nat) :
    WF (load f.bytes fl f.startIndex pre sp) es :=
  load_lagging_wf f es h _ (Nat.le_refl _) _ h.image (Nat.le_of_lt h.behind_last_lt_scan) fl pre sp

end RNacos.LogFile
