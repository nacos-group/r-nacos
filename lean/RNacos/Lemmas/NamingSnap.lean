import RNacos.Lemmas.Naming
import RNacos.Model.NamingSnap
/-
The registry's snapshot (`Model/NamingSnap.lean`) read back, for Props/C01.  Seen through `lookDo`, loading a record
overwrites one address (`lookDo_loadRec`), and the snapshot is the graph of `lookDo` restricted to the persistent
instances (`mem_buildSnapshot`; this is where `Inv` is needed: `build_snapshot` walks the persistent sets, which have
to mirror the instance maps): `Fold.look_foldl_graph` does the rest.
-/
namespace RNacos.Naming

theorem lookDo_eq (n : Naming) (k : SKey) (key : ShortKey) : lookDo n k key = (n.find? ⟨k, key⟩).map Inst.toDo := rfl

theorem toDo_stampLocal (n : Naming) (i : Inst) (h : Nat) : (n.stampLocal i h).toDo = i.toDo := by
  unfold Naming.stampLocal; split <;> rfl

/-- only up to `toDo`: `keepOwner` may have replaced the owner fields, which an `InstanceDo` does not carry -/
theorem toDo_merge_none (s : Svc) (i : Inst) : (s.merge i none).toDo = i.toDo := by
  cases h : AL.get? s.insts i.short with
  | none => rw [merge_of_none h]
  | some old => rw [merge_of_some h]; show (keepOwner i old).toDo = _; unfold keepOwner; split <;> rfl

theorem lookDo_loadRec (now : Int) (hashOf : SKey → Nat) (n : Naming) (r : SKey × Do) (k' : SKey) (key' : ShortKey) :
    lookDo (loadRec now hashOf n r) k' key' = if (k', key') = keyOf r then some r.2 else lookDo n k' key' := by
  have hiff : (⟨r.1, r.2.toInst.short⟩ : IKey) = ⟨k', key'⟩ ↔ (k', key') = keyOf r :=
    ⟨fun h => by cases h; rfl, fun h => by cases h; rfl⟩
  rw [lookDo_eq, lookDo_eq, loadRec, find?_updateInstance]
  by_cases e : (k', key') = keyOf r
  · rw [if_pos e, if_pos (hiff.2 e), Option.map_some, toDo_merge_none, toDo_stampLocal]; rfl
  · rw [if_neg e, if_neg (fun h => e (hiff.1 h))]

theorem mem_svcRecs {k : SKey} {s : Svc} (hs : SvcInv s) {r : SKey × Do} :
    r ∈ svcRecs k s ↔ ∃ i, AL.get? s.insts (keyOf r).2 = some i ∧ i.ephemeral = false ∧ (k, i.toDo) = r := by
  unfold svcRecs
  rw [List.mem_filterMap]
  constructor
  · rintro ⟨key, _, hr⟩
    cases hi : AL.get? s.insts key with
    | none => rw [hi] at hr; cases hr
    | some i =>
      rw [hi] at hr
      cases he : i.ephemeral <;> simp only [he] at hr <;> cases hr
      cases hs.keyed key i hi
      exact ⟨i, hi, he, rfl⟩
  · rintro ⟨i, hi, he, rfl⟩
    exact ⟨_, (hs.perp _).2 ⟨i, hi, he⟩, by rw [hi]; simp [he]⟩

/-- what `Fold.look_foldl_graph` asks of the list it folds over (its `hg`, up to `Option.filter_eq_some_iff`) -/
theorem mem_buildSnapshot (n : Naming) (hinv : Inv n) (k : SKey) (key : ShortKey) (d : Do) :
    (∃ r ∈ buildSnapshot n, keyOf r = (k, key) ∧ r.2 = d) ↔ (lookDo n k key = some d ∧ d.ephemeral = false) := by
  rw [lookDo_eq, Option.map_eq_some_iff]
  constructor
  · rintro ⟨r, hr, hkey, rfl⟩
    obtain ⟨⟨k', s⟩, hks, hr⟩ := List.mem_flatMap.1 hr
    have hget := AL.mem_get?_some _ _ _ hinv.svcKeys hks
    obtain ⟨i, hi, he, rfl⟩ := (mem_svcRecs (hinv.svcs _ _ hget)).1 hr
    cases hkey
    exact ⟨⟨i, find?_eq_some.2 ⟨_, hget, hi⟩, rfl⟩, he⟩
  · rintro ⟨⟨i, hi, rfl⟩, he⟩
    obtain ⟨s, hs, hi⟩ := find?_eq_some.1 hi
    have hk : i.short = key := (hinv.svcs k s hs).keyed key i hi
    subst hk
    exact ⟨(k, i.toDo), List.mem_flatMap.2 ⟨(k, s), AL.get?_some_mem _ _ _ hs, (mem_svcRecs (hinv.svcs k s hs)).2 ⟨i, hi, he, rfl⟩⟩,
      rfl, rfl⟩

theorem lookDo_loadSnapshot_build (n : Naming) (hinv : Inv n) (now : Int) (hashOf : SKey → Nat) (m : Naming) (k : SKey)
    (key : ShortKey) :
    lookDo (loadSnapshot now hashOf m (buildSnapshot n)) k key =
      ((lookDo n k key).filter fun d => !d.ephemeral).orElse fun _ => lookDo m k key :=
  Fold.look_foldl_graph (look := fun n (p : SKey × ShortKey) => lookDo n p.1 p.2) (key := keyOf) (val := (·.2))
    (buildSnapshot n) (fun r _ s p => lookDo_loadRec now hashOf s r p.1 p.2) m (k, key) _
    fun d => by rw [Option.filter_eq_some_iff, Bool.not_eq_true', ← mem_buildSnapshot n hinv k key d]

end RNacos.Naming
