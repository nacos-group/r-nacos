import RNacos.Model.FileReader
import RNacos.Lemmas.Stream
/-
`specDecode` (the oracle) and `FileMessageReader` on well-formed streams. The reader sees the file only from `start`
on, so the lemmas speak of `r.file.drop r.start`: a stream may begin anywhere in a file.
-/
namespace RNacos.FileReader
open RNacos.Varint RNacos.Spec.Stream RNacos.BufReader

theorem specDecode_stream : ∀ (f : Nat) (bs : List (List Nat)) (tail : List Nat),
    BodiesOK bs → TailOK tail → specDecode f (stream bs tail) = (bs.take f).map frame := by
  intro f
  induction f with
  | zero => intro bs tail _ _; rfl
  | succ f ih =>
    intro bs tail hb ht
    cases bs with
    | nil =>
      show specDecode (f + 1) tail = []
      cases tail with
      | nil => rfl
      | cons a t => rw [specDecode, if_pos (tailOK_cons.1 ht)]
    | cons b bs =>
      obtain ⟨hbb, hbs⟩ := List.forall_mem_cons.1 hb
      rw [stream_cons]
      obtain ⟨a, t, hat, ha⟩ := frame_head_ne_zero b hbb.1 (stream bs tail)
      obtain ⟨hk, hv, hn⟩ := frame_decode b (stream bs tail) hbb.2
      -- `specDecode` looks at the first byte by a `match`: show it a `cons`, then put the frame back
      rw [hat, specDecode, if_neg ha, ← hat]
      simp only [hk, hv, hn, List.length_append, Nat.le_add_right, if_true, List.take_left, List.drop_left,
        List.take_succ_cons, List.map_cons, ih bs tail hbs ht]

theorem specDecode_length (bs : List (List Nat)) (tail : List Nat) (hb : BodiesOK bs) (ht : TailOK tail) :
    specDecode (stream bs tail).length (stream bs tail) = bs.map frame := by
  rw [specDecode_stream _ bs tail hb ht, List.take_of_length_le]
  rw [stream_eq, List.length_append]
  exact Nat.le_trans (frames_length_ge bs) (Nat.le_add_right _ _)

theorem readLen_frame {r : FileReader} {b rest : List Nat} (hb : 0 < b.length ∧ b.length < 2 ^ 64)
    (h : r.file.drop r.start = frame b ++ rest) : readLen r = some (frame b).length := by
  -- the ten bytes looked at begin with the whole length prefix
  obtain ⟨q, hq⟩ : vwrite b.length <+: (frame b ++ rest).take 10 := by
    rw [frame, List.append_assoc, List.prefix_take_iff]
    exact ⟨List.prefix_append _ _, vwrite_length_le _⟩
  have hne : ((frame b ++ rest).take 10).isEmpty = false :=
    List.isEmpty_eq_false_iff.2 (hq ▸ vwrite_append_ne_nil _ q)
  rw [readLen, h]
  simp only [hne, Bool.false_eq_true, if_false]
  rw [← hq, List.append_assoc, vread_vwrite b.length _ hb.2]
  simp only [Nat.ne_of_gt hb.1, if_false]
  -- `read_len` sizes the prefix with `inner_sizeof_varint`, not by the bytes it read
  rw [frame_length, vwrite_length_eq_vsizeof, Nat.add_comm]

theorem readLen_end {r : FileReader} {tail : List Nat} (ht : TailOK tail) (h : r.file.drop r.start = tail) :
    readLen r = none := by
  rw [readLen, h]
  cases tail with
  | nil => rfl
  | cons a t =>
    obtain rfl := tailOK_cons.1 ht
    simp [vread, vreadGo]

/-- the reader stands in front of the records `bs`, with `tail` behind them -/
structure At (r : FileReader) (bs : List (List Nat)) (tail : List Nat) : Prop where
  bodies : BodiesOK bs
  tailOK : TailOK tail
  eq : r.file.drop r.start = stream bs tail

namespace At
variable {r : FileReader} {b : List Nat} {bs : List (List Nat)} {tail : List Nat}

theorem nil (h : At r [] tail) : readLen r = none := readLen_end h.tailOK h.eq

theorem cons (h : At r (b :: bs) tail) :
    readLen r = some (frame b).length ∧ (r.file.drop r.start).take (frame b).length = frame b ∧
      At { r with start := r.start + (frame b).length } bs tail := by
  obtain ⟨hb, hbs⟩ := List.forall_mem_cons.1 h.bodies
  have he : r.file.drop r.start = frame b ++ stream bs tail := h.eq.trans (stream_cons ..)
  exact ⟨readLen_frame hb he, by rw [he, List.take_left], hbs, h.tailOK,
    by rw [← List.drop_drop, he, List.drop_left]⟩

end At

theorem readIndexPosition_stream : ∀ (bs : List (List Nat)) (i : Nat) (r : FileReader) (tail : List Nat),
    At r bs tail →
    (readIndexPosition i r).map (·.1) =
      if h : i < bs.length then
        some (r.start + (frames (bs.take i)).length, (frame bs[i]).length)
      else none := by
  intro bs
  induction bs with
  | nil =>
    intro i r tail h
    cases i <;> simp [readIndexPosition, readNextPosition, h.nil]
  | cons b bs ih =>
    intro i r tail h
    obtain ⟨hl, _, h'⟩ := h.cons
    cases i with
    | zero => simp [readIndexPosition, readNextPosition, hl, frames]
    | succ i =>
      simp only [readIndexPosition, readNextPosition, hl]
      rw [ih i _ tail h']
      simp only [List.length_cons, Nat.add_lt_add_iff_right, List.take_succ_cons, frames_cons,
        List.length_append, List.getElem_cons_succ, Nat.add_assoc]

theorem readAll_stream : ∀ (f : Nat) (r : FileReader) (bs : List (List Nat)) (tail : List Nat),
    At r bs tail → readAll f r = (bs.take f).map frame := by
  intro f
  induction f with
  | zero => intro r bs tail _; rfl
  | succ f ih =>
    intro r bs tail h
    cases bs with
    | nil => simp [readAll, readNext, h.nil]
    | cons b bs =>
      obtain ⟨hl, hd, h'⟩ := h.cons
      simp [readAll, readNext, hl, hd, ih _ bs tail h']

end RNacos.FileReader
