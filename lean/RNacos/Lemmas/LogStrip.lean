import RNacos.Lemmas.LogWF
/-
Truncation (`strip_log_to`): inside the log it leaves a file that holds exactly the entries below the cut.
-/
namespace RNacos.LogFile
open RNacos.IndexFile (writeAt)

theorem writeAt_nil (l : List Nat) (off : Nat) (h : off ≤ l.length) : writeAt l off [] = l := by
  rw [IndexFile.writeAt_eq l off [] h, List.nil_append, List.length_nil, Nat.add_zero, List.take_append_drop]

/-- `strip_log_to` up to the look-up of the last term, given what the count from the index entry finds on what the first
write leaves (`dc`, `mc`).  When no index entry is dropped the first write writes nothing, so the case distinction of the
code disappears. -/
theorem stripCore_eq (f : LogFile) (k : Nat) (idx : Idx) (len pop : Nat) (h0 : pop = 0 → len = 0)
    (hic : f.indexCursor ≤ f.bytes.length) (dc mc : Nat)
    (hmv : moveByCount (writeAt f.bytes (f.indexCursor - len) (List.replicate len 0)) idx f.startIndex
      (k - idx.logIndex) = (dc, mc)) :
    stripCore f k idx len pop =
      { f with indexs := f.indexs.take (f.indexs.length - pop), indexCursor := f.indexCursor - len, dataCursor := dc,
               msgCount := mc, curCount := k - idx.logIndex, pos := dc, lastTerm := f.hdrTerm,
               bytes := writeAt (writeAt f.bytes (f.indexCursor - len) (List.replicate len 0)) dc
                 (List.replicate (f.dataCursor - dc) 0) } := by
  unfold stripCore
  split
  · simp only [hmv]
  · obtain rfl : pop = 0 := by omega
    simp only [h0 rfl, List.replicate_zero, Nat.sub_zero, writeAt_nil _ _ hic, List.take_length] at hmv ⊢
    simp only [hmv]

/-- **the cut**: `strip_log_to(k)`, before it looks up the last term, has left a file that holds exactly the entries
below `k` (`n` entries are kept, `js` is the index entry of the block that holds the cut, `q` the last index entry) -/
theorem stripCore_wf (f : LogFile) (es : List Rec) (k n js q : Nat) (h : WF f es)
    (hn : n = k - f.startIndex) (hjs : js = n / f.interval) (hq : q = es.length / f.interval)
    (hlt : k < f.startIndex + es.length) :
    WF (stripCore f k (entry f.startIndex f.interval es js) (tailLen f.interval es q js) (q - js)) (es.take n) := by
  have hnle : n ≤ es.length := by omega
  have hjq : js ≤ q := by rw [hjs, hq]; exact Nat.div_le_div_right hnle
  have hjn : js * f.interval ≤ n := by rw [hjs]; exact Nat.div_mul_le_self _ _
  have hcur : k - (entry f.startIndex f.interval es js).logIndex = n % f.interval := by
    rw [hjs, hn]; exact sub_add_div_mul_eq_mod ..
  have hcnt : js * f.interval + (k - (f.startIndex + js * f.interval)) = n := by
    rw [show k - (f.startIndex + js * f.interval) = n % f.interval from hcur, hjs]; exact Nat.div_add_mod' ..
  -- of the `q + 1` index entries the last `q - js` are dropped
  have hmin : min (q + 1 - (q - js)) (q + 1) = js + 1 := by
    rw [Nat.succ_sub (Nat.sub_le _ _), Nat.sub_sub_self hjq, Nat.min_eq_left (Nat.succ_le_succ hjq)]
  subst hq
  have hC := h.indexCursor_sub_tailLen hjq
  -- the first write leaves the index area cut back to entry `js`; the count from there stops at the cut
  have hB := h.image.unindex hjq
  rw [← hC] at hB
  have hmv := moveByCount_image hB h.recs f.startIndex (js * f.interval) (k - (f.startIndex + js * f.interval))
    (Nat.le_trans hjn hnle)
  rw [hcnt, Nat.min_eq_left hnle] at hmv
  rw [stripCore_eq f k (entry f.startIndex f.interval es js) _ _
    (fun hp => by rw [Nat.le_antisymm hjq (Nat.le_of_sub_eq_zero hp), tailLen_self])
    (by rw [h.ic]; exact IsImage.length_ge h.image) _ _ hmv]
  rw [h.dc]
  have hlen : (es.take n).length = n := by rw [List.length_take, Nat.min_eq_left hnle]
  have hpre := List.take_prefix n es
  have hjn' : js * f.interval ≤ (es.take n).length := by rw [hlen]; exact hjn
  have hup := idxBytesUpTo_of_prefix f.interval hpre hjn'
  refine opened_wf h (fun r hr => h.recs r (List.mem_of_mem_take hr))
    (fun i hi => by rw [List.getElem_take]; exact h.idx i (Nat.lt_of_lt_of_le hi (List.length_take_le' ..)))
    (by rw [offsetOf_take_end es n]; exact Nat.lt_of_le_of_lt (offsetOf_mono es n _ hnle) h.bound)
    (hjs.trans (by rw [hlen]))
    (by rw [← hup]; exact h.idxBytesUpTo_lt_areaEnd hjq)
    (fun i hi => by
      rw [← idxBytesUpTo_of_prefix _ hpre (Nat.le_trans (Nat.mul_le_mul_right _ (Nat.le_of_lt hi)) hjn')]
      exact h.room i (Nat.lt_of_lt_of_le hi hjq))
    (hB.cut n hnle hjn) f.fileLen f.hdrTerm h.split f.needSeek ?_
  -- the cursors and entries of `opened` and those that `stripCore_eq` computes from `f`, both in terms of `es`
  rw [opened, offsetOf_take_end es n, hlen, ← hup, ← hC, ← hcur, ← entries_of_prefix _ _ hpre hjn', h.indexs,
    idxList_eq, ← List.map_take, List.take_range, List.length_map, List.length_range, hmin]

/-- **truncation**: `strip_log_to(k)` inside the log is the cut (a file holding exactly the entries below `k`)
followed by the look-up of the last term -/
theorem strip_eq (f : LogFile) (es : List Rec) (k : Nat) (h : WF f es) (hs : f.startIndex ≤ k) (hlt : k < endIndex f) :
    ∃ g, strip f k = some (refreshTerm g k) ∧ WF g (es.take (k - f.startIndex)) ∧ endIndex g = k ∧
      g.splitOff = f.splitOff := by
  have hend := endIndex_wf f es h
  have hw := stripCore_wf f es k _ _ _ h rfl rfl rfl (by omega)
  unfold strip
  rw [if_neg (by omega), findIdx_layout f es k h.ivl h.indexs hs (by omega)]
  refine ⟨_, rfl, hw, ?_, (stripCore_static ..).split⟩
  rw [endIndex_wf _ _ hw, (stripCore_static ..).start, List.length_take, Nat.min_eq_left (by omega), Nat.add_sub_cancel' hs]

theorem strip_wf (f : LogFile) (es : List Rec) (k : Nat) (h : WF f es) (hs : f.startIndex ≤ k) (hlt : k < endIndex f) :
    ∃ f', strip f k = some f' ∧ WF f' (es.take (k - f.startIndex)) ∧ endIndex f' = k := by
  obtain ⟨g, hg, hw, he, _⟩ := strip_eq f es k h hs hlt
  exact ⟨_, hg, refreshTerm_wf _ _ _ hw, (endIndex_refreshTerm g k).trans he⟩

theorem strip_noop (f : LogFile) (k : Nat) (hk : endIndex f ≤ k) : strip f k = some f := by
  unfold strip; simp [hk]

/-- below the first index of the file `get_file_index_by_log_index` finds no entry: the error "not found index" -/
theorem strip_below (f : LogFile) (es : List Rec) (k : Nat) (h : WF f es) (hk : k < f.startIndex) :
    strip f k = none := by
  have hend := endIndex_wf f es h
  have hnone : findIdx f k = none := by
    refine findIdxGo_none _ _ _ _ _ fun e he => ?_
    rw [List.mem_reverse, h.indexs, idxList_eq] at he
    obtain ⟨j, _, rfl⟩ := List.mem_map.mp he
    exact Nat.lt_of_lt_of_le hk (Nat.le_add_right _ _)
  rw [strip, if_neg (by omega), hnone]

end RNacos.LogFile
