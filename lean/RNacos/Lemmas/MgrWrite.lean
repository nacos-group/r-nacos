import RNacos.Lemmas.MgrBasic
/-
`RaftLogManager::write` / `write_batch` refine the list specification's `append`, for every fullness oracle:
where the files roll over is invisible (`switchNew_sim`), so a write is `writeCur` on a catalogue that shows the same log.
-/
namespace RNacos.LogManager
open RNacos.LogStore (Ent Store append)

def fresh (id n : Nat) : File := { id := id, start := n, splitOff := n, closed := false, count := 0, recs := [] }

theorem switchNew_nil (n : Nat) : switchNew [] n = [fresh 1 n] := rfl

theorem switchNew_snoc (ys : List File) (l : File) (n : Nat) :
    switchNew (ys ++ [l]) n = ys ++ [{ l with closed := true, count := n - l.start }, fresh (l.id + 1) n] := by
  simp [switchNew, fresh]

theorem pushRec_snoc (ys : List File) (l : File) (e : Ent) :
    pushRec (ys ++ [l]) e = ys ++ [{ l with recs := l.recs ++ [e] }] := by
  simp [pushRec]

theorem fileInv_fresh (id n : Nat) : FileInv (fresh id n) :=
  ⟨by intro j h; simp [fresh] at h, by simp [fresh], by simp [fresh, endIdx]⟩

theorem fileInv_push (l : File) (e : Ent) (h : FileInv l) (he : e.index = endIdx l) :
    FileInv { l with recs := l.recs ++ [e] } := by
  refine ⟨fun j hj => ?_, h.lo, Nat.le_trans h.hi (by simp [endIdx])⟩
  rw [List.getElem_append]
  split
  · exact h.ok j ‹_›
  · simp at hj; simp [he, endIdx]; omega

theorem visible_push (l : File) (e : Ent) (h : l.splitOff ≤ e.index) :
    visible { l with recs := l.recs ++ [e] } = visible l ++ [e] := by
  simp [visible, List.filter_append, h]

/-- `switch_new_log` where the log ends (`nx.getD n`: anywhere, when there is no file yet) keeps the catalogue well
formed and shows nothing new -/
theorem switchNew_sim (fs : List File) (ents : List Ent) (nx : Option Nat) (n : Nat) (h : Sim fs ents nx) :
    Sim (switchNew fs (nx.getD n)) ents (some (nx.getD n)) := by
  cases nx with
  | none =>
    obtain ⟨rfl, rfl⟩ := sim_none.1 h
    exact ⟨⟨fileInv_fresh 1 n, rfl⟩, rfl, rfl⟩
  | some m =>
    obtain ⟨ys, l, rfl, rfl, rfl, hp, hl, _⟩ := sim_some h
    rw [Option.getD_some, switchNew_snoc]
    refine ⟨(chain_append ys _ _).2 ⟨hp, ⟨rfl, ?_⟩, fileInv_flags l hl _ _, rfl, fileInv_fresh _ _, rfl⟩, ?_, ?_⟩
    · simp [endIdx]
    · simp [absEnts, visible, fresh]
    · simp [absNext, fresh, endIdx]

/-- the file-level write on a catalogue that shows `ents` and expects `n`: it takes the record with index `n` and no other -/
theorem writeCur_spec (full : File → Bool) (fs : List File) (ents : List Ent) (n : Nat) (h : Sim fs ents (some n)) (e : Ent) :
    Sim (writeCur full fs e).1 (if n = e.index then ents ++ [e] else ents) (some (if n = e.index then n + 1 else n)) ∧
      ((writeCur full fs e).2 = .ok ↔ n = e.index) := by
  obtain ⟨ys, l, rfl, rfl, rfl, hp, hl, hopen⟩ := sim_some h
  unfold writeCur
  by_cases he : endIdx l = e.index
  · have hend : endIdx { l with recs := l.recs ++ [e] } = e.index + 1 := by simp [endIdx, ← he]; omega
    have hpush := sim_snoc (fileInv_push l e hl he.symm) hopen hp
    rw [visible_push l e (by have := hl.hi; omega), ← List.append_assoc, hend] at hpush
    simp only [List.getLast?_concat, he, ne_eq, not_true_eq_false, if_false, pushRec_snoc, if_true, hend]
    split
    · -- SuccessToEnd: the file just filled is closed at once (there is a file, so the `0` is not looked at)
      exact ⟨switchNew_sim _ _ _ 0 hpush, by simp⟩
    · exact ⟨hpush, by simp⟩
  · simpa [he] using h

/-- a write is `writeCur` on a catalogue that shows the same log and has an open file: `fs` itself, or `fs` after
`switch_new_log` (no file yet; `Failure` of a full file, the new file then takes the record by `hfresh`) -/
theorem writeOne_eq_writeCur (full : File → Bool) (hfresh : ∀ f : File, f.recs = [] → full f = false)
    (fs : List File) (ents : List Ent) (nx : Option Nat) (h : Sim fs ents nx) (e : Ent) :
    ∃ fs', writeOne full fs e 2 = writeCur full fs' e ∧ Sim fs' ents (some (nx.getD e.index)) := by
  cases nx with
  | none =>
    obtain ⟨rfl, -⟩ := sim_none.1 h
    exact ⟨switchNew [] e.index, by simp [writeOne, switchNew_nil, hfresh (fresh 1 e.index) rfl],
      switchNew_sim [] ents none e.index h⟩
  | some n =>
    obtain ⟨ys, l, rfl, -, rfl, -⟩ := sim_some h
    by_cases hf : full l = true
    · refine ⟨switchNew (ys ++ [l]) (endIdx l), ?_, switchNew_sim _ ents _ e.index h⟩
      simp [writeOne, hf, switchNew_snoc, hfresh (fresh (l.id + 1) (endIdx l)) rfl]
    · exact ⟨ys ++ [l], by simp [writeOne, hf], h⟩

/-- **`write` refines `append` of one entry**, for every fullness oracle that lets an empty file take a record -/
theorem writeOne_spec (full : File → Bool) (hfresh : ∀ f : File, f.recs = [] → full f = false)
    (fs : List File) (s : Store) (h : Sim fs s.ents s.next) (e : Ent) :
    Sim (writeOne full fs e 2).1 (append s [e]).1.ents (append s [e]).1.next ∧
      ((writeOne full fs e 2).2 = .ok ↔ (append s [e]).2 = true) := by
  obtain ⟨fs', hw, h'⟩ := writeOne_eq_writeCur full hfresh fs _ _ h e
  have := writeCur_spec full fs' _ _ h' e
  -- the specification takes `e` iff it expects `e.index` or nothing yet: iff `s.next.getD e.index = e.index`
  obtain ⟨ents, _ | n, lt, pp, hs⟩ := s
  · simpa [hw, append] using this
  · by_cases hn : n = e.index <;> simpa [hw, append, hn] using this

/-- the first record of a log, as `save_new_snapshot_pointer` and snapshot installation write it -/
theorem writeOne_nil_ptr (full : File → Bool) (hfresh : ∀ f : File, f.recs = [] → full f = false) (i t : Nat) :
    Sim (writeOne full [] (ptrEnt i t) 2).1 [ptrEnt i t] (some (i + 1)) :=
  (writeOne_spec full hfresh [] {} ⟨trivial, rfl, rfl⟩ (ptrEnt i t)).1

theorem writeBatchFs_cons (full : File → Bool) (fs : List File) (e : Ent) (es : List Ent) :
    writeBatchFs full fs (e :: es) =
      if (writeOne full fs e 2).2 = .ok then writeBatchFs full (writeOne full fs e 2).1 es else writeOne full fs e 2 := by
  rw [writeBatchFs]
  rcases writeOne full fs e 2 with ⟨fs1, _ | _ | _⟩ <;> rfl

/-- **`write_batch` refines `append`**: a contiguous batch is taken as a whole iff its first index is the expected
one; a refused batch changes nothing that can be seen -/
theorem writeBatchFs_spec (full : File → Bool) (hfresh : ∀ f : File, f.recs = [] → full f = false) :
    ∀ (es : List Ent) (fs : List File) (s : Store), Sim fs s.ents s.next → Contig es →
    Sim (writeBatchFs full fs es).1 (append s es).1.ents (append s es).1.next ∧
      ((writeBatchFs full fs es).2 = .ok ↔ (append s es).2 = true)
  | [], _, _, h, _ => ⟨h, by simp [writeBatchFs, append]⟩
  | e :: es, fs, s, h, hcont => by
    have h1 := writeOne_spec full hfresh fs s h e
    simp only [writeBatchFs_cons, LogStore.append_cons s e es hcont, h1.2]
    split
    · exact writeBatchFs_spec full hfresh es _ _ h1.1 hcont.tail
    · exact h1

end RNacos.LogManager
