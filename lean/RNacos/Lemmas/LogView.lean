import RNacos.Lemmas.LogHistory
import RNacos.Lemmas.LogRead
/-
A history replayed on the log alone (`View`): the specified log, the side conditions of a history and what a read
returns depend on a file that holds `es` only through `es`, the geometry the file was created with and what is split
off (`Static`, Lemmas/LogHeader).  None of them needs the bytes, so for a concrete history they are evaluated on lists
of a few records.
-/
namespace RNacos.LogFile
open RNacos.Spec.Stream

/-- what `stepA`, `OpOK` and `readRecords` see of a file that holds `es` -/
structure View where
  start : Nat
  ivl : Nat
  area : Nat
  split : Nat
  es : List Rec
  deriving DecidableEq

def view (f : LogFile) (es : List Rec) : View := ⟨f.startIndex, f.interval, f.areaEnd, f.splitOff, es⟩

theorem Static.view {f g : LogFile} (h : Static f g) (es : List Rec) :
    view g es = ⟨f.startIndex, f.interval, f.areaEnd, f.splitOff, es⟩ := by
  simp only [LogFile.view, h.start, h.ivl, h.area, h.split]

namespace View

/-- `isFull` of a file that holds `v.es` (`WF.isFull_eq`) -/
def full (v : View) : Bool :=
  decide (v.area ≤ 32 + (idxBytes v.ivl v.es).length + 10) || decide (2000000000 ≤ offsetOf v.es v.es.length)

def step (v : View) : Op → View
  | .append r => if v.full = false ∧ r.index = v.start + v.es.length then { v with es := v.es ++ [r] } else v
  | .strip k => if v.start ≤ k then { v with es := v.es.take (k - v.start) } else v
  | .reopen _ sp => { v with split := max sp v.start }

def ok (v : View) : Op → Prop
  | .append r => RecOK r ∧ offsetOf v.es v.es.length + (frame (recBody r)).length < 2 ^ 64
  | _ => True

def histOK : View → List Op → Prop
  | _, [] => True
  | v, op :: ops => v.ok op ∧ (v.step op).histOK ops

/- `View.ok` and `View.histOK` are decidable (`RecOK` is a conjunction of comparisons), so that the `example`s of C02 to
C04 settle the side conditions of their histories by `decide` -/
instance (v : View) : (op : Op) → Decidable (v.ok op)
  | .append _ => inferInstanceAs (Decidable ((_ ∧ _) ∧ _))
  | .strip _ | .reopen _ _ => inferInstanceAs (Decidable True)

instance decHistOK : (ops : List Op) → (v : View) → Decidable (v.histOK ops)
  | [], _ => inferInstanceAs (Decidable True)
  | op :: ops, v => have := decHistOK ops (v.step op); inferInstanceAs (Decidable (v.ok op ∧ (v.step op).histOK ops))

end View

theorem isFull_view (f : LogFile) (es : List Rec) (h : WF f es) : isFull f = (view f es).full :=
  h.isFull_eq

/-- **one operation, seen from the log**: the next file and the next specified log have the view that `View.step`
computes, and the operation's side condition is the view's -/
theorem step_view (f : LogFile) (es : List Rec) (op : Op) (h : WF f es) :
    view (stepF f op) (stepA f es op) = (view f es).step op ∧ (OpOK f op ↔ (view f es).ok op) := by
  cases op with
  | append r =>
    refine ⟨?_, by unfold OpOK View.ok; rw [h.dc]; rfl⟩
    simp only [stepF, stepA, (write_static f r).view, isFull_view f es h, endIndex_wf f es h]
    exact apply_ite (View.mk f.startIndex f.interval f.areaEnd f.splitOff) _ _ _
  | strip k =>
    refine ⟨?_, Iff.rfl⟩
    have hf : Static f ((strip f k).getD f) := by
      cases hs : strip f k with
      | none => exact .refl f
      | some f' => exact strip_static hs
    simp only [stepF, stepA, hf.view]
    exact apply_ite (View.mk f.startIndex f.interval f.areaEnd f.splitOff) _ _ _
  | reopen pre sp =>
    -- a reopen reads the geometry back from the header; the split-off is the one the catalogue passes
    refine ⟨?_, Iff.rfl⟩
    rw [stepF, (load_eq f es h _ pre sp).1]
    exact (initTerm_termOnly _ _).static.view es

/-- **a history, seen from the log**: if its side conditions hold on the views, they hold on the files, and the file and
the specified log it ends with have the view the steps compute -/
theorem run_view (ops : List Op) (f : LogFile) (es : List Rec) (h : WF f es) (hok : (view f es).histOK ops) :
    HistOK f ops ∧ view (run (f, es) ops).1 (run (f, es) ops).2 = ops.foldl View.step (view f es) := by
  induction ops generalizing f es with
  | nil => exact ⟨trivial, rfl⟩
  | cons op ops ih =>
    obtain ⟨hv, hiff⟩ := step_view f es op h
    have hop := hiff.mpr hok.1
    obtain ⟨h1, h2⟩ := ih _ _ (step_wf f es op h hop) (hv ▸ hok.2)
    exact ⟨⟨hop, h1⟩, h2.trans (by rw [hv]; rfl)⟩

/-- `read_wf` on a view given by an equation, so that `v` can be the literal that `run_view` leaves for a concrete history -/
theorem read_view (f : LogFile) (es : List Rec) (h : WF f es) (v : View) (hv : view f es = v) (a b : Nat) :
    readRecords f a b = some ((v.es.drop (max a v.split - v.start)).take (min b (v.start + v.es.length) - max a v.split)) := by
  subst hv
  rw [read_wf f es a b h, endIndex_wf f es h]
  rfl

end RNacos.LogFile
