import RNacos.Lemmas.LogWrite
import RNacos.Lemmas.LogStrip
import RNacos.Lemmas.LogLoad
/-
Histories of operations on one log file and the abstract log they implement.
-/
namespace RNacos.LogFile
open RNacos.Spec.Stream

inductive Op where
  | append (r : Rec)
  | strip (k : Nat)
  | reopen (pre sp : Nat)

/-- the implementation (model) step -/
def stepF (f : LogFile) : Op → LogFile
  | .append r => (write f r).1
  | .strip k => (strip f k).getD f
  | .reopen pre sp => load f.bytes f.fileLen f.startIndex pre sp

/-- the specification: a list of entries; an append is taken iff it was acknowledged (the file is not full
and the index is the next one), a truncation keeps the entries below `k` -/
def stepA (f : LogFile) (es : List Rec) : Op → List Rec
  | .append r => if isFull f = false ∧ r.index = endIndex f then es ++ [r] else es
  | .strip k => if f.startIndex ≤ k then es.take (k - f.startIndex) else es
  | .reopen _ _ => es

/-- side conditions: records are storable, the file stays below 2^64 bytes -/
def OpOK (f : LogFile) : Op → Prop
  | .append r => RecOK r ∧ f.dataCursor + (frame (recBody r)).length < 2 ^ 64
  | _ => True

/-- **refinement step**: every operation takes a file holding `es` to a file holding the specified log -/
theorem step_wf (f : LogFile) (es : List Rec) (op : Op) (h : WF f es) (hok : OpOK f op) :
    WF (stepF f op) (stepA f es op) := by
  cases op with
  | append r =>
    simp only [stepF, stepA]
    split
    next hacc => exact write_wf f es r h hacc.1 hacc.2 hok.1 hok.2
    next hacc => rw [write_refused f r hacc]; exact h
  | strip k =>
    simp only [stepF, stepA]
    have hend := endIndex_wf f es h
    split
    next hs =>
      by_cases hlt : k < endIndex f
      · obtain ⟨_, hg, hw, _⟩ := strip_wf f es k h hs hlt
        rw [hg]; exact hw
      · rw [strip_noop f k (by omega), List.take_of_length_le (by omega)]
        exact h
    next hs => rw [strip_below f es k h (by omega)]; exact h
  | reopen pre sp => exact load_wf f es h _ _ _

/-- implementation and specification run side by side -/
def run : LogFile × List Rec → List Op → LogFile × List Rec
  | s, [] => s
  | (f, es), op :: ops => run (stepF f op, stepA f es op) ops

/-- the side condition of every operation of a history, each on the file it meets -/
def HistOK : LogFile → List Op → Prop
  | _, [] => True
  | f, op :: ops => OpOK f op ∧ HistOK (stepF f op) ops

/-- **every history**: after any sequence of appends (accepted or rejected), truncations and reopens the
file holds exactly the specified log -/
theorem run_wf (ops : List Op) (f : LogFile) (es : List Rec) (h : WF f es) (hok : HistOK f ops) :
    WF (run (f, es) ops).1 (run (f, es) ops).2 := by
  induction ops generalizing f es with
  | nil => exact h
  | cons op ops ih => exact ih _ _ (step_wf f es op h hok.1) hok.2

end RNacos.LogFile
