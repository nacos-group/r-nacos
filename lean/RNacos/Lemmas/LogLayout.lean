import RNacos.Lemmas.LogRec
/-
The byte layout of a log file that holds the entries `es`: the record stream (`dataBytes`), where each entry starts
(`offsetOf`) and the index area (`idxBytesUpTo`), none of which changes below `n` when `es` is cut or extended behind `n`
(the `_of_prefix` lemmas); and the zeros around them (`AllZero`).
-/
namespace RNacos.LogFile
open RNacos.Varint RNacos.Spec.Stream RNacos.BufReader

def AllZero (l : List Nat) : Prop := ∀ b ∈ l, b = 0

theorem AllZero.drop {l : List Nat} (h : AllZero l) (n : Nat) : AllZero (l.drop n) :=
  fun b hb => h b (List.mem_of_mem_drop hb)

theorem AllZero.append {a b : List Nat} (ha : AllZero a) (hb : AllZero b) : AllZero (a ++ b) := by
  intro x hx; rcases List.mem_append.mp hx with h | h
  · exact ha x h
  · exact hb x h

theorem allZero_replicate (n : Nat) : AllZero (List.replicate n 0) := by
  intro b hb; exact (List.mem_replicate.mp hb).2

theorem AllZero.tailOK {l : List Nat} (h : AllZero l) : TailOK l := by
  cases l with
  | nil => exact Or.inl rfl
  | cons a t => exact tailOK_cons.2 (h a List.mem_cons_self)

/-- the record stream of `es` -/
def dataBytes (es : List Rec) : List Nat := frames (es.map recBody)

theorem dataBytes_nil : dataBytes [] = [] := rfl

theorem dataBytes_append (a b : List Rec) : dataBytes (a ++ b) = dataBytes a ++ dataBytes b := by
  unfold dataBytes; rw [List.map_append, frames_append]

theorem dataBytes_single (r : Rec) : dataBytes [r] = frame (recBody r) := by
  simp [dataBytes, frames]

theorem dataBytes_take_drop (es : List Rec) (n : Nat) :
    dataBytes es = dataBytes (es.take n) ++ dataBytes (es.drop n) := by
  rw [← dataBytes_append, List.take_append_drop]

theorem dataBytes_length_ge (es : List Rec) : es.length ≤ (dataBytes es).length := by
  have := frames_length_ge (es.map recBody); simpa [dataBytes] using this

/-- file offset of entry number `j` (0-based) -/
def offsetOf (es : List Rec) (j : Nat) : Nat := dataStart + (dataBytes (es.take j)).length

theorem offsetOf_zero (es : List Rec) : offsetOf es 0 = dataStart := by rw [offsetOf, List.take_zero, dataBytes_nil]; rfl

theorem offsetOf_length (es : List Rec) : offsetOf es es.length = dataStart + (dataBytes es).length := by
  rw [offsetOf, List.take_length]

theorem offsetOf_take_end (es : List Rec) (n : Nat) : offsetOf (es.take n) (es.take n).length = offsetOf es n :=
  offsetOf_length _

theorem offsetOf_snoc_end (es : List Rec) (r : Rec) :
    offsetOf (es ++ [r]) (es ++ [r]).length = offsetOf es es.length + (frame (recBody r)).length := by
  rw [offsetOf_length, offsetOf_length, dataBytes_append, dataBytes_single, List.length_append, Nat.add_assoc]

/-- stated for `<+:` so that it serves truncation (`es.take n <+: es`) and append (`es <+: es ++ [r]`) alike -/
theorem offsetOf_of_prefix {a b : List Rec} (h : a <+: b) {j : Nat} (hj : j ≤ a.length) : offsetOf b j = offsetOf a j := by
  obtain ⟨t, rfl⟩ := h
  unfold offsetOf; rw [List.take_append_of_le_length hj]

theorem offsetOf_add (es : List Rec) (m i : Nat) :
    offsetOf es (m + i) = offsetOf es m + (dataBytes ((es.drop m).take i)).length := by
  unfold offsetOf; rw [List.take_add, dataBytes_append, List.length_append, Nat.add_assoc]

theorem offsetOf_mono (es : List Rec) (i j : Nat) (h : i ≤ j) : offsetOf es i ≤ offsetOf es j := by
  obtain ⟨d, rfl⟩ := Nat.exists_eq_add_of_le h
  rw [offsetOf_add]; exact Nat.le_add_right _ _

theorem offsetOf_lt (es : List Rec) (i j : Nat) (h : i < j) (hj : j ≤ es.length) : offsetOf es i < offsetOf es j := by
  obtain ⟨d, rfl⟩ := Nat.exists_eq_add_of_lt h
  have := dataBytes_length_ge ((es.drop i).take (d + 1))
  rw [List.length_take, List.length_drop] at this
  rw [Nat.add_assoc, offsetOf_add]; omega

/-- the index entries the file has for `es` -/
def idxList (start I : Nat) (es : List Rec) : List Idx :=
  (List.range (es.length / I + 1)).map fun j => ⟨start + j * I, offsetOf es (j * I)⟩

/-- the bytes of the index area: one varint offset step per index entry after the first -/
def idxBytesUpTo (I : Nat) (es : List Rec) (q : Nat) : List Nat :=
  (List.range q).flatMap fun j => vwrite (offsetOf es ((j + 1) * I) - offsetOf es (j * I))

/-- the index area of a file in use: an offset step for every `I` entries -/
def idxBytes (I : Nat) (es : List Rec) : List Nat := idxBytesUpTo I es (es.length / I)

/-- offset step number `j`: the bytes that entries `j * I` to `(j + 1) * I` take -/
def stepOf (I : Nat) (es : List Rec) (j : Nat) : Nat := offsetOf es ((j + 1) * I) - offsetOf es (j * I)

theorem offsetOf_step (I : Nat) (es : List Rec) (j : Nat) :
    offsetOf es (j * I) + stepOf I es j = offsetOf es ((j + 1) * I) :=
  Nat.add_sub_cancel' (offsetOf_mono es _ _ (Nat.mul_le_mul_right I (Nat.le_succ j)))

theorem stepOf_pos (I : Nat) (es : List Rec) (j : Nat) (hI : 0 < I) (h : (j + 1) * I ≤ es.length) :
    0 < stepOf I es j :=
  Nat.sub_pos_of_lt (offsetOf_lt es _ _ (Nat.mul_lt_mul_of_pos_right (Nat.lt_succ_self j) hI) h)

theorem stepOf_lt (I : Nat) (es : List Rec) (j : Nat) (h : (j + 1) * I ≤ es.length) (hb : offsetOf es es.length < 2 ^ 64) :
    stepOf I es j < 2 ^ 64 :=
  Nat.lt_of_le_of_lt (Nat.sub_le _ _) (Nat.lt_of_le_of_lt (offsetOf_mono es _ _ h) hb)

theorem idxBytesUpTo_zero (I : Nat) (es : List Rec) : idxBytesUpTo I es 0 = [] := rfl

theorem idxBytes_nil (I : Nat) : idxBytes I [] = [] := by
  rw [idxBytes, List.length_nil, Nat.zero_div, idxBytesUpTo_zero]

theorem idxBytesUpTo_succ (I : Nat) (es : List Rec) (q : Nat) :
    idxBytesUpTo I es (q + 1) = idxBytesUpTo I es q ++ vwrite (stepOf I es q) := by
  unfold idxBytesUpTo stepOf; rw [List.range_succ, List.flatMap_append]; simp

theorem idxBytesUpTo_prefix (I : Nat) (es : List Rec) {j q : Nat} (h : j ≤ q) : idxBytesUpTo I es j <+: idxBytesUpTo I es q := by
  obtain ⟨d, rfl⟩ := Nat.exists_eq_add_of_le h
  unfold idxBytesUpTo; rw [List.range_add, List.flatMap_append]; exact List.prefix_append _ _

theorem idxBytesUpTo_mono (I : Nat) (es : List Rec) {j q : Nat} (h : j ≤ q) :
    (idxBytesUpTo I es j).length ≤ (idxBytesUpTo I es q).length :=
  (idxBytesUpTo_prefix I es h).length_le

theorem idxBytesUpTo_of_prefix (I : Nat) {a b : List Rec} (h : a <+: b) {q : Nat} (hq : q * I ≤ a.length) :
    idxBytesUpTo I b q = idxBytesUpTo I a q := by
  unfold idxBytesUpTo
  rw [List.flatMap_def, List.flatMap_def]
  refine congrArg List.flatten (List.map_congr_left fun j hj => ?_)
  have hj : (j + 1) * I ≤ a.length := Nat.le_trans (Nat.mul_le_mul_right I (List.mem_range.mp hj)) hq
  rw [offsetOf_of_prefix h hj, offsetOf_of_prefix h (Nat.le_trans (Nat.mul_le_mul_right I (Nat.le_succ j)) hj)]

theorem idxBytes_mono (I : Nat) {a b : List Rec} (h : a <+: b) : (idxBytes I a).length ≤ (idxBytes I b).length := by
  rw [idxBytes, ← idxBytesUpTo_of_prefix I h (Nat.div_mul_le_self _ _)]
  exact idxBytesUpTo_mono _ _ (Nat.div_le_div_right h.length_le)

theorem idxBytesUpTo_length_ge (I : Nat) (es : List Rec) (q : Nat) : q ≤ (idxBytesUpTo I es q).length := by
  induction q with
  | zero => exact Nat.zero_le _
  | succ q ih =>
    rw [idxBytesUpTo_succ, List.length_append]
    have := vwrite_length_pos (stepOf I es q); omega

end RNacos.LogFile
