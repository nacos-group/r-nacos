import RNacos.Lemmas.LogImage
import RNacos.Lemmas.LogHeader
/-
The representation invariant of a log file (`WF f es`: the file `f` holds exactly the entries `es`), the state in
which an accepted `write`, a `strip_log_to` inside the log and `init` leave a file (`opened`), for which the invariant
is established once (`opened_wf`), and the invariant of a new file.
-/
namespace RNacos.LogFile
open RNacos.Varint RNacos.BufReader

structure WF (f : LogFile) (es : List Rec) : Prop where
  recs : ∀ r ∈ es, RecOK r
  idx : ∀ i (h : i < es.length), es[i].index = f.startIndex + i
  ivl : 0 < f.interval
  ivl16 : f.interval < 65536                 -- the header stores it in two bytes
  area : f.areaEnd ≤ dataStart
  first : f.firstIndex = f.startIndex
  split : f.startIndex ≤ f.splitOff
  bound : offsetOf es es.length < 2 ^ 64     -- so that every offset step fits a 64-bit varint
  msg : f.msgCount = es.length
  cur : f.curCount = es.length % f.interval
  dc : f.dataCursor = offsetOf es es.length
  indexs : f.indexs = idxList f.startIndex f.interval es
  ic : f.indexCursor = 32 + (idxBytes f.interval es).length
  icEnd : f.indexCursor < f.areaEnd
  -- every index entry was written while `isFull` (`indexCursor + 10 ≥ areaEnd`) was false
  room : ∀ j, j < es.length / f.interval → 32 + (idxBytesUpTo f.interval es j).length + 10 < f.areaEnd
  bytes : ∃ z1 z2, f.bytes = header f.hdrTerm f.firstIndex f.interval f.areaEnd ++ (idxBytes f.interval es ++ z1) ++
      (dataBytes es ++ z2) ∧ AllZero z1 ∧ AllZero z2 ∧ 32 + (idxBytes f.interval es).length + z1.length = dataStart
  posOK : f.needSeek = true ∨ f.pos = f.dataCursor
  hdrOK : f.hdrTerm < 2 ^ 64 ∧ f.firstIndex < 2 ^ 64

theorem WF.image {f : LogFile} {es : List Rec} (h : WF f es) :
    IsImage (hdr f) f.interval es (es.length / f.interval) f.bytes := by
  obtain ⟨Z, z, hb, hZ, hz, hsum⟩ := h.bytes
  exact ⟨Z, z, hb, ⟨header_length _ _ _ _, hsum⟩, hZ, hz⟩

theorem WF.idxBytesUpTo_lt_areaEnd {f : LogFile} {es : List Rec} (h : WF f es) {j : Nat}
    (hj : j ≤ es.length / f.interval) : 32 + (idxBytesUpTo f.interval es j).length < f.areaEnd :=
  Nat.lt_of_le_of_lt (Nat.add_le_add_left (idxBytesUpTo_mono _ _ hj) 32) (h.ic ▸ h.icEnd)

theorem WF.indexCursor_sub_tailLen {f : LogFile} {es : List Rec} (h : WF f es) {j : Nat}
    (hj : j ≤ es.length / f.interval) :
    f.indexCursor - tailLen f.interval es (es.length / f.interval) j = 32 + (idxBytesUpTo f.interval es j).length := by
  rw [h.ic, idxBytes, tailLen, Nat.add_sub_assoc (Nat.sub_le _ _), Nat.sub_sub_self (idxBytesUpTo_mono _ _ hj)]

/-- the records behind the last index entry are fewer than `init` scans (65535) -/
theorem WF.behind_last_lt_scan {f : LogFile} {es : List Rec} (h : WF f es) :
    es.length - es.length / f.interval * f.interval < 0xffff := by
  have := sub_div_mul_lt es.length _ h.ivl; have := h.ivl16; omega

/-- the position of `write`'s `write_all`: the data handle stands at the data cursor unless `read_records` has moved it,
and then `need_seek_at_write` is set (`posOK`) -/
theorem WF.writePos {f : LogFile} {es : List Rec} (h : WF f es) :
    (if f.needSeek = true then f.dataCursor else f.pos) = offsetOf es es.length := by
  rcases h.posOK with hs | hs
  · rw [if_pos hs, h.dc]
  · rw [hs, ite_self, h.dc]

/-- `isFull` in terms of `es`: the index area has no room for another entry (`indexCursor + 10 ≥ areaEnd`, where the
cursor stands behind the 32 bytes of the header and the index bytes), or the data is at its limit -/
theorem WF.isFull_eq {f : LogFile} {es : List Rec} (h : WF f es) :
    isFull f = (decide (f.areaEnd ≤ 32 + (idxBytes f.interval es).length + 10) ||
      decide (2000000000 ≤ offsetOf es es.length)) := by
  rw [LogFile.isFull, h.ic, h.dc]

theorem WF.isFull {f : LogFile} {es : List Rec} (h : WF f es) :
    isFull f = false ↔ 32 + (idxBytes f.interval es).length + 10 < f.areaEnd ∧ offsetOf es es.length < 2000000000 := by
  simp only [h.isFull_eq, Bool.or_eq_false_iff, decide_eq_false_iff_not, Nat.not_le]

theorem lastIdx_wf (f : LogFile) (es : List Rec) (h : WF f es) :
    lastIdx f = entry f.startIndex f.interval es (es.length / f.interval) :=
  lastIdx_of_indexs h.indexs

theorem endIndex_wf (f : LogFile) (es : List Rec) (h : WF f es) : endIndex f = f.startIndex + es.length := by
  unfold endIndex; rw [h.msg]

/-- the invariant does not mention the cached term nor forbid a pending seek -/
theorem WF.setTerm {f : LogFile} {es : List Rec} (h : WF f es) (t : Nat) :
    WF { f with needSeek := true, lastTerm := t } es :=
  { h with posOK := Or.inl rfl }

theorem TermOnly.wf {f g : LogFile} {es : List Rec} (hg : TermOnly f g) (h : WF f es) : WF g es := by
  obtain rfl | ⟨t, rfl⟩ := hg
  · exact h
  · exact h.setTerm t

theorem refreshTerm_wf (f : LogFile) (es : List Rec) (k : Nat) (h : WF f es) : WF (refreshTerm f k) es :=
  (refreshTerm_termOnly f k).wf h

theorem initTerm_wf (f : LogFile) (es : List Rec) (t : Nat) (h : WF f es) : WF (initTerm f t) es :=
  (initTerm_termOnly f t).wf h

/-- A file of the geometry of `f` with the cursors, counters and index entries of one that holds `es` and the first `j`
offset steps of its index area (`j = es.length / f.interval` unless the index area lags behind, as it does inside
`init`).  An accepted `write`, a `strip_log_to` inside the log and `init` end in such a state (the last two before they
look up the last term, `TermOnly`), so this is where `WF` is established. -/
def opened (f : LogFile) (es : List Rec) (j : Nat) (bytes : List Nat) (fl pre sp : Nat) (seek : Bool) : LogFile :=
  { f with bytes := bytes, fileLen := fl, indexs := (List.range (j + 1)).map (entry f.startIndex f.interval es),
           indexCursor := 32 + (idxBytesUpTo f.interval es j).length, dataCursor := offsetOf es es.length,
           msgCount := es.length, lastTerm := pre, curCount := es.length % f.interval,
           splitOff := sp, pos := offsetOf es es.length, needSeek := seek }

theorem lastIdx_opened (f : LogFile) (es : List Rec) (j : Nat) (b : List Nat) (fl pre sp : Nat) (seek : Bool) :
    lastIdx (opened f es j b fl pre sp seek) = entry f.startIndex f.interval es j :=
  lastIdx_of_indexs rfl

/-- the next offset step written behind the others and its index entry `e` appended (the second write of `write`, a
round of `init`'s repair) -/
theorem opened_step (f : LogFile) (es : List Rec) (j : Nat) (B B' : List Nat) (fl pre sp : Nat) (seek : Bool) (e : Idx)
    (he : e = entry f.startIndex f.interval es (j + 1)) :
    { opened f es j B fl pre sp seek with
        bytes := B',
        indexCursor := 32 + (idxBytesUpTo f.interval es j).length + (vwrite (stepOf f.interval es j)).length,
        indexs := (List.range (j + 1)).map (entry f.startIndex f.interval es) ++ [e] } =
      opened f es (j + 1) B' fl pre sp seek := by
  subst he
  unfold opened
  rw [idxBytesUpTo_succ, List.length_append, List.range_succ (n := j + 1), List.map_append, Nat.add_assoc]
  rfl

/-- `opened` with the complete index area (`hj`) on the image of `es` is well formed, provided a file of this geometry can
hold `es` (`hbound`, `hcap`, `hroom`).  Of `h` only the geometry of `f` is used: `es0` is any list.  `hg` is an equation
so that the caller first brings its state into the form of `opened`. -/
theorem opened_wf {f g : LogFile} {es0 es : List Rec} (h : WF f es0) (hrecs : ∀ r ∈ es, RecOK r)
    (hidx : ∀ i (hi : i < es.length), es[i].index = f.startIndex + i) (hbound : offsetOf es es.length < 2 ^ 64)
    {j : Nat} (hj : j = es.length / f.interval) (hcap : 32 + (idxBytesUpTo f.interval es j).length < f.areaEnd)
    (hroom : ∀ i, i < j → 32 + (idxBytesUpTo f.interval es i).length + 10 < f.areaEnd)
    {B : List Nat} (hB : IsImage (hdr f) f.interval es j B) (fl pre : Nat) {sp : Nat} (hsp : f.startIndex ≤ sp)
    (seek : Bool) (hg : g = opened f es j B fl pre sp seek) : WF g es := by
  obtain ⟨Z, z, rfl, hfit, hZ, hz⟩ := hB
  subst hj hg
  -- unfolded first: else every field is unified through the definition
  unfold opened
  exact { recs := hrecs, idx := hidx, ivl := h.ivl, ivl16 := h.ivl16, area := h.area, first := h.first, split := hsp,
          bound := hbound, msg := rfl, cur := rfl, dc := rfl, indexs := rfl, ic := rfl, icEnd := hcap, room := hroom,
          bytes := ⟨Z, z, rfl, hZ, hz, hfit.2⟩, posOK := Or.inr rfl, hdrOK := h.hdrOK }

theorem create_wf (start pre split I A : Nat) (hI : 0 < I) (hI16 : I < 65536) (hA : 32 < A) (hA2 : A ≤ dataStart)
    (hs : start < 2 ^ 64) (hp : pre < 2 ^ 64) : WF (create start pre split I A) [] :=
  { recs := nofun, idx := nofun, ivl := hI, ivl16 := hI16, area := hA2, first := rfl, split := Nat.le_max_right _ _,
    bound := by rw [List.length_nil, offsetOf_zero]; decide, msg := rfl, cur := (Nat.zero_mod I).symm,
    dc := (offsetOf_zero []).symm, indexs := by simp [create, idxList, offsetOf_zero],
    ic := by rw [idxBytes_nil]; rfl, icEnd := hA, room := by simp,
    bytes := ⟨List.replicate (dataStart - 32) 0, [],
      by simp only [idxBytes_nil, dataBytes_nil, List.nil_append, List.append_nil]; rfl,
      allZero_replicate _, nofun, by rw [idxBytes_nil, List.length_replicate]; rfl⟩,
    posOK := Or.inr rfl, hdrOK := ⟨hp, hs⟩ }

/-- a new file of the default geometry: an index entry every 128 records, the index area up to offset 4096 -/
theorem create_wf_default (start pre split : Nat) (hs : start < 2 ^ 64) (hp : pre < 2 ^ 64) :
    WF (create start pre split) [] :=
  create_wf start pre split 128 4096 (by omega) (by omega) (by omega) (by decide) hs hp

end RNacos.LogFile
