import RNacos.Lemmas.BufReader
/-
The consumer loops over the reader against the whole-stream specification: `takeAll`/`drainAll`.
-/
namespace RNacos.BufReader
open RNacos.Spec.Stream

variable {rem tail : List Nat}

/-- `takeAll` takes the whole records the window holds (`bs1`), puts them behind those of `acc`, which the loop keeps
newest first, and leaves an aligned reader. Each record taken shortens the window, so fuel above its length does not
run out (`hung = false`). -/
theorem takeAll_frames : ∀ (fuel : Nat) (r : BufReader) (bs acc : List (List Nat)),
    Reads r rem bs tail → (window r).length < fuel →
    ∃ bs1 bs2 r', bs = bs1 ++ bs2 ∧ takeAll fuel r acc = (acc.reverse ++ bs1.map frame, r', false) ∧
      Aligned r' rem bs2 tail := by
  intro fuel
  induction fuel with
  | zero => exact fun _ _ _ _ hf => absurd hf (Nat.not_lt_zero _)
  | succ f ih =>
    intro r bs acc h hf
    rcases h.next with ⟨b, bs', r1, rfl, hn, h1, hl⟩ | ⟨r', hn, h'⟩
    · obtain ⟨bs1, bs2, r', rfl, ht, h'⟩ := ih r1 bs' (frame b :: acc) h1
        (Nat.lt_of_lt_of_le hl (Nat.le_of_lt_succ hf))
      exact ⟨b :: bs1, bs2, r', rfl, by simp [takeAll, hn, ht], h'⟩
    · exact ⟨[], bs, r', rfl, by simp [takeAll, hn], h'⟩

theorem drainAll_correct : ∀ (chunks : List (List Nat)) (r : BufReader) (bs : List (List Nat))
    (tail : List Nat), Aligned r chunks.flatten bs tail →
    (drainAll r chunks).1 = bs.map frame ∧ (drainAll r chunks).2.2 = false := by
  intro chunks
  induction chunks with
  | nil => intro r bs tail h; rw [h.nil]; exact ⟨rfl, rfl⟩
  | cons ch rest ih =>
    intro r bs tail h
    have h1 : Reads (appendNextBuf r ch) rest.flatten bs tail := h.toReads.append
    obtain ⟨bs1, bs2, r2, rfl, htk, h2⟩ := takeAll_frames _ _ _ [] h1 h1.wf.fuel
    obtain ⟨i1, i2⟩ := ih r2 bs2 tail h2
    simp [drainAll, htk, i1, i2]

end RNacos.BufReader
