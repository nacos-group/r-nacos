import RNacos.Lemmas.LogWF
/-
Append (`write`): a contiguous record written into a file that is not full leaves a file that holds the old entries
and the new one.
-/
namespace RNacos.LogFile
open RNacos.Varint RNacos.Spec.Stream
open RNacos.IndexFile (writeAt)

theorem write_index_ne (f : LogFile) (r : Rec) (hfull : isFull f = false) (hidx : r.index ≠ endIndex f) :
    write f r = (f, .indexEqualError) := by
  rw [write, if_neg (Bool.eq_false_iff.mp hfull), if_pos fun e => hidx e.symm]

/-- `write` answering `Failure` (the file is full) or `IndexEqualError` (the index is not the next one) has changed
nothing -/
theorem write_refused (f : LogFile) (r : Rec) (h : ¬(isFull f = false ∧ r.index = endIndex f)) : (write f r).1 = f := by
  cases hf : isFull f
  · rw [write_index_ne f r hf fun e => h ⟨hf, e⟩]
  · rw [write, if_pos hf]

/-- an accepted `write` caches the term of its record and answers `Success`, or `SuccessToEnd` if it has filled the
file -/
theorem write_reports (f : LogFile) (r : Rec) (hfull : isFull f = false) (hidx : r.index = endIndex f) :
    (write f r).1.lastTerm = r.term ∧ ((write f r).2 = .success ∨ (write f r).2 = .successToEnd) := by
  rw [write, if_neg (Bool.eq_false_iff.mp hfull), if_neg (fun h => h hidx.symm)]
  exact ⟨(apply_ite LogFile.lastTerm _ _ _).trans (ite_self _),
    (Bool.eq_false_or_eq_true _).elim (fun h => .inr (if_pos h)) fun h => .inl (if_neg (Bool.eq_false_iff.mp h))⟩

/-- **append**: a contiguous record written into a file that is not full leaves a file that holds `es ++ [r]` -/
theorem write_wf (f : LogFile) (es : List Rec) (r : Rec) (h : WF f es) (hfull : isFull f = false)
    (hidx : r.index = endIndex f) (hr : RecOK r)
    (hsz : f.dataCursor + (frame (recBody r)).length < 2 ^ 64) : WF (write f r).1 (es ++ [r]) := by
  -- `q` offset steps are in the index area
  obtain ⟨q, hq⟩ : ∃ q, q = es.length / f.interval := ⟨_, rfl⟩
  have hqle : q * f.interval ≤ es.length := hq ▸ Nat.div_mul_le_self _ _
  -- the first write: the record goes behind the last one
  have hB := (hq ▸ h.image).append hqle r
  rw [← h.writePos] at hB
  have hoff := offsetOf_snoc_end es r
  have hpre := List.prefix_append es [r]
  have hlen : (es ++ [r]).length = es.length + 1 := List.length_append
  have hrecs : ∀ x ∈ es ++ [r], RecOK x := List.forall_mem_append.mpr ⟨h.recs, List.forall_mem_singleton.mpr hr⟩
  have hidxs : ∀ i (hi : i < (es ++ [r]).length), (es ++ [r])[i].index = f.startIndex + i := by
    intro i hi
    rcases Nat.lt_or_eq_of_le (Nat.le_of_lt_succ (hlen ▸ hi)) with hlt | rfl
    · rw [List.getElem_append_left hlt]; exact h.idx i hlt
    · rw [List.getElem_concat_length rfl, hidx, endIndex_wf f es h]
  -- `es'` is what the file is to hold
  generalize es ++ [r] = es' at hB hoff hpre hlen hrecs hidxs ⊢
  have hbound : offsetOf es' es'.length < 2 ^ 64 := by rw [hoff, ← h.dc]; exact hsz
  -- what the file has of the index, in terms of `es'`
  have hic : f.indexCursor = 32 + (idxBytesUpTo f.interval es' q).length := by
    rw [h.ic, idxBytes, ← hq, idxBytesUpTo_of_prefix _ hpre hqle]
  have hixs : f.indexs = (List.range (q + 1)).map (entry f.startIndex f.interval es') := by
    rw [h.indexs, idxList_eq, ← hq, entries_of_prefix _ _ hpre hqle]
  -- every index entry there is, and the one that may come now, has ten bytes of room
  have hroom : ∀ j, j ≤ q → 32 + (idxBytesUpTo f.interval es' j).length + 10 < f.areaEnd := by
    intro j hj
    rcases Nat.lt_or_eq_of_le hj with hj | rfl
    · rw [idxBytesUpTo_of_prefix _ hpre (Nat.le_trans (Nat.mul_le_mul_right _ (Nat.le_of_lt hj)) hqle)]
      exact h.room j (hq ▸ hj)
    · rw [← hic, h.ic]
      exact (h.isFull.mp hfull).1
  rw [write, if_neg (Bool.eq_false_iff.mp hfull), if_neg (fun h => h hidx.symm)]
  dsimp only
  generalize writeAt f.bytes _ (frame (recBody r)) = B at hB ⊢
  generalize (if f.fileLen ≤ _ then _ else _) = fl
  by_cases hstep : f.curCount + 1 = f.interval
  · -- the record completes an index step: the second write puts its offset step behind the last one, as a round of
    -- `init`'s repair does
    obtain ⟨hdiv, hmod, hmul⟩ := succ_div_mod_eq es.length f.interval h.ivl (by rw [← h.cur]; exact hstep)
    rw [← hlen, ← hq] at hdiv hmul
    have hdelta : f.dataCursor + (frame (recBody r)).length - (lastIdx f).fileIndex = stepOf f.interval es' q := by
      rw [lastIdx_of_indexs hixs, h.dc, ← hoff, hmul]
      rfl
    rw [if_pos hstep, hdelta, hic]
    refine opened_wf h hrecs hidxs hbound hdiv.symm ?_ (fun i hi => hroom i (Nat.le_of_lt_succ hi))
      (hB.index (hroom q (Nat.le_refl _)) h.area) fl r.term h.split false ?_
    · have := vwrite_length_le (stepOf f.interval es' q); have := hroom q (Nat.le_refl _)
      rw [idxBytesUpTo_succ, List.length_append]; omega
    · -- the cursors of `opened` and those the model computes from `f`, both in terms of `es`
      rw [← opened_step f es' q f.bytes _ fl r.term f.splitOff false _ rfl, opened, entry, ← hmul, hoff, hlen, hmod,
        h.writePos, h.dc, h.msg, h.first, hixs, Nat.add_comm f.startIndex]
  · obtain ⟨hdiv, hmod⟩ := succ_div_mod_lt es.length f.interval (by
      have := Nat.mod_lt es.length h.ivl; have := h.cur; omega)
    rw [if_neg hstep]
    refine opened_wf h hrecs hidxs hbound (by rw [hlen, hdiv, hq]) (hic ▸ h.icEnd) (fun i hi => hroom i (Nat.le_of_lt hi))
      hB fl r.term h.split false ?_
    rw [opened, hoff, hlen, hmod, h.writePos, h.dc, h.msg, h.cur, hixs, hic]

end RNacos.LogFile
