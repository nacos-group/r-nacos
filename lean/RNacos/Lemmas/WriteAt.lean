import RNacos.Model.IndexFile
/-
`seek(off); write_all(data)` on a byte list (`IndexFile.writeAt`).  Every write of the catalogue file and of a log file
starts inside the file: no gap is filled, so the definition's padding disappears (`writeAt_eq`).
-/
namespace RNacos.IndexFile

theorem writeAt_eq (file : List Nat) (off : Nat) (data : List Nat) (h : off ≤ file.length) :
    writeAt file off data = file.take off ++ (data ++ file.drop (off + data.length)) := by
  simp [writeAt, Nat.sub_eq_zero_of_le h]

/-- a write at an append boundary.  The offset comes as an equation, so that a caller's offset need not have the form
`a.length` -/
theorem writeAt_append (a c d : List Nat) (off : Nat) (h : off = a.length) :
    writeAt (a ++ c) off d = a ++ d ++ c.drop d.length := by
  subst h
  rw [writeAt_eq _ _ _ (by simp), List.take_left, ← List.drop_drop, List.drop_left, List.append_assoc]

theorem writeAt_length (file : List Nat) (off : Nat) (data : List Nat) :
    (writeAt file off data).length = max file.length (off + data.length) := by
  unfold writeAt
  simp only [List.length_append, List.length_take, List.length_drop, List.length_replicate]
  -- by hand: `omega` is dear on equations between `max` and truncated differences
  rw [Nat.add_comm file.length, Nat.sub_add_eq_max, Nat.min_eq_left (Nat.le_max_left ..), Nat.add_comm,
    Nat.sub_add_eq_max, Nat.max_comm off, Nat.max_assoc, Nat.max_eq_right (Nat.le_add_right ..)]

theorem le_writeAt_length (file : List Nat) (off : Nat) (data : List Nat) :
    file.length ≤ (writeAt file off data).length := by
  rw [writeAt_length]; exact Nat.le_max_left ..

end RNacos.IndexFile
