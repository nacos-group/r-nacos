import RNacos.Lemmas.LogWF
/-
Reading records back (`read_records`), and the cached term of the last entry that `init` and `strip_log_to` look up
by reading it.
-/
namespace RNacos.LogFile

/-- **reading back**: `read_records(a, b)` returns exactly the stored entries with
`max a split_off ≤ index < min b end`, in order -/
theorem read_wf (f : LogFile) (es : List Rec) (a b : Nat) (h : WF f es) :
    readRecords f a b = some ((es.drop (max a f.splitOff - f.startIndex)).take
      (min b (endIndex f) - max a f.splitOff)) := by
  have hs : f.startIndex ≤ max a f.splitOff := Nat.le_trans h.split (Nat.le_max_right _ _)
  have he : min b (endIndex f) ≤ f.startIndex + es.length := endIndex_wf f es h ▸ Nat.min_le_right _ _
  unfold readRecords
  simp only
  generalize max a f.splitOff = s at hs ⊢
  generalize min b (endIndex f) = e at he ⊢
  by_cases hse : s ≥ e
  · rw [if_pos hse, Nat.sub_eq_zero_of_le hse, List.take_zero]
  · have hlt : s - f.startIndex < es.length := by omega
    rw [if_neg hse, startIdx_layout f es s h.ivl h.indexs hs (by omega), entry]
    -- the index entry of the block of the first record wanted, then `read_index_position` to that record
    have hpos := readIndexPosition_image h.image h.recs (Nat.div_mul_le_self (s - f.startIndex) f.interval) hlt
    rw [← Nat.sub_add_eq] at hpos
    obtain ⟨⟨⟨p, _⟩, _⟩, hres, rfl⟩ := Option.map_eq_some_iff.mp hpos
    simp only [hres]
    obtain ⟨z, hat⟩ := h.image.at h.recs (s - f.startIndex)
    rw [scanFrames_stream hat, ← List.map_take, ← List.map_take]
    exact mapM_decFrame _ (fun r hr => h.recs r (List.mem_of_mem_drop (List.mem_of_mem_take hr)))

/-- the condition under which `init` and `strip_log_to` read the last entry of a non-empty log whose last entry is not
split off, and what they read -/
theorem read_last (f : LogFile) (es : List Rec) (h : WF f es) (hne : es ≠ []) (hsp : f.splitOff < endIndex f) :
    (f.msgCount > 0 ∧ max (endIndex f - 1) f.splitOff < endIndex f) ∧
      readRecords f (endIndex f - 1) (endIndex f) = some [es.getLast hne] := by
  have hend := endIndex_wf f es h
  have hlen : 0 < es.length := List.length_pos_iff.mpr hne
  have h1 : 1 ≤ endIndex f := hend ▸ Nat.le_trans hlen (Nat.le_add_left _ _)
  refine ⟨⟨h.msg ▸ hlen, Nat.max_lt.mpr ⟨Nat.sub_one_lt (Nat.ne_of_gt h1), hsp⟩⟩, ?_⟩
  rw [read_wf f es _ _ h, Nat.min_self, Nat.max_eq_left (Nat.le_sub_one_of_lt hsp), Nat.sub_sub_self h1, hend,
    Nat.sub_right_comm, Nat.add_sub_cancel_left, List.drop_eq_getElem_cons (Nat.sub_one_lt (Nat.ne_of_gt hlen)),
    List.getLast_eq_getElem hne]
  rfl

/-- **reopen reports the last entry**: after `init` the cached term is that of the last stored entry, unless it is split off -/
theorem initTerm_lastTerm (f : LogFile) (es : List Rec) (t : Nat) (h : WF f es) (hne : es ≠ [])
    (hsp : f.splitOff < endIndex f) : (initTerm f t).lastTerm = (es.getLast hne).term := by
  obtain ⟨⟨h1, h2⟩, hr⟩ := read_last f es h hne hsp
  rw [initTerm, if_pos h1, if_neg (Nat.not_le.mpr h2), hr]
  rfl

/-- **truncation reports the last remaining entry** -/
theorem refreshTerm_lastTerm (f : LogFile) (es : List Rec) (k : Nat) (h : WF f es) (hne : es ≠ [])
    (hk : k = endIndex f) (hsp : f.splitOff < endIndex f) :
    (refreshTerm f k).lastTerm = (es.getLast hne).term := by
  subst hk
  rw [refreshTerm, Nat.min_self, if_pos (read_last f es h hne hsp).1, (read_last f es h hne hsp).2]
  rfl

end RNacos.LogFile
