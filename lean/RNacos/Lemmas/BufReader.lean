import RNacos.Model.BufReader
import RNacos.Lemmas.Stream
/-
The byte-exact `MessageBufReader` model refines "a window of unread bytes": shifting, growing and stale bytes do not
show in `window` (`append_window`), and on a well-formed stream the window decides what `next_message_vec` does: it
yields the first record still to come if the window holds all of it, and nothing otherwise (`Reads.next`).
-/
namespace RNacos.BufReader
open RNacos.Varint RNacos.Spec.Stream

/-- what `MessageBufReader` keeps without saying so: its `usize` differences `end - start` and `buf.len() - end` do not
underflow -/
def WF (r : BufReader) : Prop := r.start ≤ r.end_ ∧ r.end_ ≤ r.buf.length

theorem wf_new (cap : Nat) : WF (new cap) := by simp [WF, new]

theorem window_new (cap : Nat) : window (new cap) = [] := by simp [window, new]

theorem window_length {r : BufReader} (h : WF r) : (window r).length = r.end_ - r.start := by
  rw [window, List.length_take, List.length_drop]
  exact Nat.min_eq_left (Nat.sub_le_sub_right h.2 _)

theorem isEmpty_iff {r : BufReader} (h : WF r) : isEmpty r = true ↔ (window r).head? = some 0 := by
  rw [isEmpty, window, List.head?_take, List.head?_drop, List.getD_eq_getElem?_getD]
  by_cases hs : r.start ≥ r.end_
  · simp [hs, Nat.sub_eq_zero_of_le hs]
  · have hlt := Nat.lt_of_not_ge hs
    simp [hs, Nat.lt_of_lt_of_le hlt h.2, Nat.sub_ne_zero_of_lt hlt]

theorem expand_prefix (f : Nat) : ∀ (buf : List Nat) (e n : Nat), buf <+: expand f buf e n := by
  induction f with
  | zero => intro buf e n; simp [expand]
  | succ f ih =>
    intro buf e n
    simp only [expand]
    split
    · exact List.IsPrefix.trans (List.prefix_append _ _) (ih _ e n)
    · exact List.prefix_refl _

/-- growing only appends: the bytes below `e`, which lie in the part `a` that was shifted down, stay -/
theorem take_expand {f e n : Nat} {a b : List Nat} (h : e ≤ a.length) :
    (expand f (a ++ b) e n).take e = a.take e := by
  obtain ⟨ext, hext⟩ := expand_prefix f (a ++ b) e n
  rw [← hext, List.append_assoc, List.take_append_of_le_length h]

theorem append_window {r : BufReader} (h : WF r) (ch : List Nat) :
    WF (appendNextBuf r ch) ∧ window (appendNextBuf r ch) = window r ++ ch := by
  have hl := window_length h
  -- the new buffer begins with the unread window and the chunk; `end_` is their length
  obtain ⟨junk, hbuf⟩ : ∃ junk, (appendNextBuf r ch).buf = window r ++ ch ++ junk := ⟨_, by
    rw [appendNextBuf, take_expand (by rw [List.length_drop]; exact Nat.sub_le_sub_right h.2 _)]
    rfl⟩
  have hend : (appendNextBuf r ch).end_ = (window r ++ ch).length := by
    rw [List.length_append, hl]; rfl
  refine ⟨⟨Nat.zero_le _, ?_⟩, ?_⟩
  · rw [hend, hbuf, List.length_append (bs := junk)]; exact Nat.le_add_right _ _
  · rw [window, hbuf, hend]
    exact List.take_left

theorem window_advance {r : BufReader} (h : WF r) (n nl : Nat) (hn : n ≤ (window r).length) :
    WF { r with start := r.start + n, nextLen := nl } ∧
    window { r with start := r.start + n, nextLen := nl } = (window r).drop n := by
  refine ⟨⟨Nat.add_le_of_le_sub' h.1 (window_length h ▸ hn), h.2⟩, ?_⟩
  show List.take (r.end_ - (r.start + n)) (List.drop (r.start + n) r.buf) = _
  rw [window, List.drop_take, List.drop_drop, Nat.sub_add_eq]

theorem next_frame {r : BufReader} (h : WF r) (b rest : List Nat) (hb : 0 < b.length ∧ b.length < 2 ^ 64)
    (hw : window r = frame b ++ rest) :
    ∃ r', nextMessageVec r = (some (frame b), r') ∧ WF r' ∧ window r' = rest := by
  have hne : isEmpty r = false := by
    rw [← Bool.not_eq_true, isEmpty_iff h, hw]; exact frame_head?_ne_zero b hb.1 rest
  have hge : (frame b).length ≤ (frame b ++ rest).length := by simp
  obtain ⟨hwf, hwin⟩ := window_advance h (frame b).length 0 (hw ▸ hge)
  obtain ⟨hk, hv, hn⟩ := frame_decode b rest hb.2
  refine ⟨_, ?_, hwf, by rw [hwin, hw, List.drop_left]⟩
  simp only [nextMessageVec, hne, Bool.false_eq_true, if_false, hw, hk, hv, hn, ge_iff_le, hge, if_true,
    List.take_left]

/-- What the reader still holds, followed by the bytes `rem` to come, is the stream of `bs`: every record before `bs`
has been delivered, none of `bs` has. -/
structure Reads (r : BufReader) (rem : List Nat) (bs : List (List Nat)) (tail : List Nat) : Prop where
  wf : WF r
  bodies : BodiesOK bs
  tailOK : TailOK tail
  eq : window r ++ rem = stream bs tail

/-- The invariant of both chunk loops: `Reads`, and the reader holds less than the first record to come, so that it
yields nothing before more bytes arrive (`Aligned.next`). -/
structure Aligned (r : BufReader) (rem : List Nat) (bs : List (List Nat)) (tail : List Nat) : Prop
    extends Reads r rem bs tail where
  short : ∀ b rest, bs = b :: rest → (window r).length < (frame b).length

variable {r : BufReader} {ch rem : List Nat} {bs : List (List Nat)} {tail : List Nat}

theorem aligned_new (cap : Nat) (hb : BodiesOK bs) (ht : TailOK tail) (hc : rem = stream bs tail) :
    Aligned (new cap) rem bs tail :=
  ⟨⟨wf_new _, hb, ht, by rw [window_new]; exact hc⟩, by intro b _ _; rw [window_new]; exact frame_length_pos b⟩

theorem Reads.append (h : Reads r (ch ++ rem) bs tail) : Reads (appendNextBuf r ch) rem bs tail := by
  obtain ⟨hwf, hwin⟩ := append_window h.wf ch
  exact ⟨hwf, h.bodies, h.tailOK, by rw [hwin, List.append_assoc]; exact h.eq⟩

/-- An aligned reader yields nothing and stays aligned. It stands at the end mark, or behind the last record with an
empty window, or it holds a proper prefix of the first frame to come: part of the length prefix, in which `vlen` finds
no last byte, or all of it with part of the body, where the frame's length is noted in `nextLen` and nothing else
changes. -/
theorem Aligned.next (h : Aligned r rem bs tail) :
    ∃ r', nextMessageVec r = (none, r') ∧ Aligned r' rem bs tail := by
  suffices ∃ r', nextMessageVec r = (none, r') ∧ WF r' ∧ window r' = window r by
    obtain ⟨r', hn, hwf, hw⟩ := this
    exact ⟨r', hn, ⟨hwf, h.bodies, h.tailOK, by rw [hw]; exact h.eq⟩, by rw [hw]; exact h.short⟩
  by_cases he : isEmpty r = true
  · exact ⟨r, by simp [nextMessageVec, he], h.wf, rfl⟩
  cases bs with
  | nil =>
    -- behind the records: `tail` can only begin with the end marker, the window does not, so it is empty
    cases hw : window r with
    | nil => exact ⟨r, by simp [nextMessageVec, hw, vlen], h.wf, hw⟩
    | cons a t =>
      have ht : TailOK (a :: t ++ rem) := hw ▸ (show window r ++ rem = tail from h.eq) ▸ h.tailOK
      exact absurd ((isEmpty_iff h.wf).2 (hw ▸ congrArg some (tailOK_cons.1 ht))) he
  | cons b bs' =>
    obtain ⟨hb, _⟩ := List.forall_mem_cons.1 h.bodies
    have hlen := h.short b bs' rfl
    obtain ⟨q, hq, _⟩ := split_of_append_eq (h.eq.trans (stream_cons ..)) (Nat.le_of_lt hlen)
    by_cases hshort : (window r).length < (vwrite b.length).length
    · -- inside the varint: no terminator byte yet
      obtain ⟨p, hp, _⟩ := split_of_append_eq hq.symm (Nat.le_of_lt hshort)
      exact ⟨r, by simp [nextMessageVec, he, vlen_vwrite_prefix _ _ hb.2 ⟨p, hp.symm⟩ hshort], h.wf, rfl⟩
    · -- the whole varint is there, the body is not
      obtain ⟨p, hp, _⟩ := split_of_append_eq hq (Nat.le_of_not_lt hshort)
      rw [hp, frame_length] at hlen
      exact ⟨{ r with nextLen := (vwrite b.length).length + b.length }, by
        simp only [nextMessageVec, he, Bool.false_eq_true, if_false, hp, vlen_vwrite _ _ hb.2,
          vreadGo_vwrite _ _ hb.2, Nat.mod_eq_of_lt hb.2, ge_iff_le, Nat.not_le.2 hlen], h.wf, rfl⟩

/-- One call of `next_message_vec`: the first record if the window holds all of it, and nothing otherwise. Both inner
loops run on this alone. -/
theorem Reads.next (h : Reads r rem bs tail) :
    (∃ b bs' r', bs = b :: bs' ∧ nextMessageVec r = (some (frame b), r') ∧ Reads r' rem bs' tail ∧
      (window r').length < (window r).length) ∨
    ∃ r', nextMessageVec r = (none, r') ∧ Aligned r' rem bs tail := by
  cases bs with
  | nil => exact .inr (Aligned.next ⟨h, nofun⟩)
  | cons b bs' =>
    by_cases hlt : (window r).length < (frame b).length
    · exact .inr (Aligned.next ⟨h, fun _ _ e => by cases e; exact hlt⟩)
    · obtain ⟨hb, hbs⟩ := List.forall_mem_cons.1 h.bodies
      obtain ⟨q, hq, he⟩ := split_of_append_eq (h.eq.trans (stream_cons ..)).symm (Nat.le_of_not_lt hlt)
      obtain ⟨r', hn, hwf, hw⟩ := next_frame h.wf b q hb hq
      refine .inl ⟨b, bs', r', rfl, hn, ⟨hwf, hbs, h.tailOK, by rw [hw, he]⟩, ?_⟩
      rw [hw, hq, List.length_append]
      exact Nat.lt_add_of_pos_left (frame_length_pos b)

/-- the fuel the chunk loops give their inner loops: one per byte of the window and one to spare -/
theorem WF.fuel (h : WF r) : (window r).length < r.end_ - r.start + 1 := by
  rw [window_length h]; exact Nat.lt_succ_self _

/-- no bytes to come: the window, shorter than any first record, is all of the stream -/
theorem Aligned.nil (h : Aligned r [] bs tail) : bs = [] := by
  cases bs with
  | nil => rfl
  | cons b rest =>
    have h1 := h.short b rest rfl
    rw [← List.append_nil (window r), h.eq, stream_cons, List.length_append] at h1
    exact absurd h1 (Nat.not_lt.2 (Nat.le_add_right ..))

theorem Reads.nil_of_isEmpty (h : Reads r rem bs tail) (he : isEmpty r = true) : bs = [] := by
  cases bs with
  | nil => rfl
  | cons b rest =>
    have h0 := congrArg List.head? h.eq
    rw [List.head?_append, (isEmpty_iff h.wf).1 he, stream_cons] at h0
    exact absurd h0.symm (frame_head?_ne_zero b (h.bodies b (by simp)).1 _)

end RNacos.BufReader
