import RNacos.Model.Components
import RNacos.Base.FoldLook
import RNacos.Base.BigEndian
/-
Round trips of the sequence and table components' snapshot encodings (used by Props/C01).
-/
namespace RNacos.Components
open RNacos

theorem idToBin_eq (v : Nat) : idToBin v = (List.range 8).reverse.map fun i => v / 256 ^ i % 256 := by
  simp [idToBin, List.range, List.range.loop]

theorem binToId_cons (b0 b1 b2 b3 b4 b5 b6 b7 : Nat) (rest : Bytes) :
    binToId (b0 :: b1 :: b2 :: b3 :: b4 :: b5 :: b6 :: b7 :: rest) =
      some ([b0, b1, b2, b3, b4, b5, b6, b7].foldl (fun acc b => acc * 256 + b) 0) := by
  simp only [binToId, List.foldl, Option.some.injEq]
  omega

theorem binToId_idToBin (v : Nat) (h : v < 2 ^ 64) : binToId (idToBin v) = some v := by
  -- `binToId_cons` needs the eight bytes written out; `show` folds them back into `idToBin v`, which `idToBin_eq` turns
  -- into the digit list of `BE.foldl_digits`
  rw [idToBin, binToId_cons]
  show some ((idToBin v).foldl _ 0) = some v
  rw [idToBin_eq, BE.foldl_digits_of_lt h]

theorem idToBin_length (v : Nat) : (idToBin v).length = 8 := rfl

theorem idToBin_bytes (v : Nat) : ∀ b ∈ idToBin v, b < 256 := by
  intro b hb
  obtain ⟨i, _, rfl⟩ := List.mem_map.1 (idToBin_eq v ▸ hb)
  exact Nat.mod_lt _ (by decide)

theorem mem_of_mem_erase {κ ν : Type} [DecidableEq κ] (l : List (κ × ν)) (k : κ) (x : κ × ν)
    (h : x ∈ AL.erase l k) : x ∈ l :=
  (List.mem_filter.1 (AL.erase_eq_filter l k ▸ h)).1

theorem get?_seqLoadRec (db : Sequence.SeqDb) (k : String) (v : Nat) (hv : v < 2 ^ 64) (hk : k ≠ seqConfigKey)
    (k' : String) :
    AL.get? (seqLoadRec db ⟨k, idToBin v⟩) k' = if k' = k then some v else AL.get? db k' := by
  unfold seqLoadRec
  simp only [hk, if_false, binToId_idToBin v hv, AL.get?_set, eq_comm]

/-- the entries a snapshot of the sequences can carry: 64-bit values, no sequence called `SEQ_CONFIG` -/
def SeqOK (db : Sequence.SeqDb) : Prop := ∀ kv ∈ db, kv.2 < 2 ^ 64 ∧ kv.1 ≠ seqConfigKey

theorem get?_seqLoad_build (l : Sequence.SeqDb) (hn : AL.NodupKeys l) (hok : SeqOK l) (s : Sequence.SeqDb)
    (k : String) :
    AL.get? (seqLoad s (seqBuild l)) k = (AL.get? l k).orElse fun _ => AL.get? s k := by
  unfold seqLoad seqBuild
  rw [List.foldl_map]
  -- with distinct keys the list is the graph of its own `get?`
  exact Fold.look_foldl_graph (key := (·.1)) (val := (·.2)) l
    (fun e he s k' => get?_seqLoadRec s e.1 e.2 (hok e he).1 (hok e he).2 k') s k _ fun v =>
    ⟨fun h => ⟨(k, v), AL.get?_some_mem l k v h, rfl, rfl⟩,
     fun ⟨r, hr, hk, hv⟩ => AL.mem_get?_some l k v hn (by rw [← hk, ← hv]; exact hr)⟩

theorem tget_tset (ts : Tables) (t : String) (k v : Bytes) (t' : String) (k' : Bytes) :
    tget (tset ts t k v) t' k' = if t' = t ∧ k' = k then some v else tget ts t' k' := by
  unfold tget tset
  rw [AL.get?_set]
  by_cases ht : t = t'
  · subst ht
    simp only [if_true, Option.bind_some, AL.get?_set, true_and, eq_comm (a := k)]
    cases AL.get? ts t <;> rfl
  · rw [if_neg ht, if_neg fun h => ht h.1.symm]

/-- every table has distinct keys, the tables distinct names -/
def TablesOK (ts : Tables) : Prop := AL.NodupKeys ts ∧ ∀ nt ∈ ts, AL.NodupKeys nt.2

theorem TablesOK.get {ts : Tables} (h : TablesOK ts) {t : String} {tb : Table} (hg : AL.get? ts t = some tb) :
    AL.NodupKeys tb :=
  h.2 _ (AL.get?_some_mem ts _ _ hg)

theorem TablesOK.erase {ts : Tables} (h : TablesOK ts) (t : String) : TablesOK (AL.erase ts t) :=
  ⟨AL.nodupKeys_erase _ _ h.1, fun nt hnt => h.2 nt (mem_of_mem_erase ts t nt hnt)⟩

theorem TablesOK.set {ts : Tables} (h : TablesOK ts) (t : String) {tb : Table} (htb : AL.NodupKeys tb) :
    TablesOK (AL.set ts t tb) :=
  ⟨AL.nodupKeys_set _ _ _ h.1, fun nt hnt => (List.mem_cons.1 hnt).elim (· ▸ htb) ((h.erase t).2 nt)⟩

/-- the snapshot is the graph of `tget` -/
theorem tget_eq_some_iff (ts : Tables) (hok : TablesOK ts) (t : String) (k v : Bytes) :
    tget ts t k = some v ↔ ∃ r ∈ tblBuild ts, (r.tree, r.key) = (t, k) ∧ r.value = v := by
  simp only [tget, Option.bind_eq_some_iff, tblBuild, List.mem_flatMap, List.mem_map]
  constructor
  · rintro ⟨tb, htb, hv⟩
    exact ⟨⟨t, k, v⟩, ⟨(t, tb), AL.get?_some_mem ts t tb htb, (k, v), AL.get?_some_mem tb k v hv, rfl⟩, rfl, rfl⟩
  · rintro ⟨_, ⟨nt, hnt, kv, hkv, rfl⟩, hk, rfl⟩
    cases hk
    exact ⟨nt.2, AL.mem_get?_some ts _ _ hok.1 hnt, AL.mem_get?_some nt.2 _ _ (hok.2 nt hnt) hkv⟩

/-- loading reads every entry back, when every tree name is one that `load_snapshot` knows -/
theorem tget_tblLoad_build (ts : Tables) (hok : TablesOK ts) (hall : ∀ nt ∈ ts, nt.1 ∈ loadedTrees) (s : Tables)
    (t : String) (k : Bytes) :
    tget (tblLoad s (tblBuild ts)) t k = (tget ts t k).orElse fun _ => tget s t k := by
  refine Fold.look_foldl_graph (look := fun s (p : String × Bytes) => tget s p.1 p.2) (key := fun r => (r.tree, r.key))
    (val := TblRec.value) (tblBuild ts) ?_ s (t, k) _ (tget_eq_some_iff ts hok t k)
  intro r hr s p
  simp only [tblBuild, List.mem_flatMap, List.mem_map] at hr
  obtain ⟨nt, hnt, kv, _, rfl⟩ := hr
  simp only [tblLoadRec, hall nt hnt, if_true, tget_tset, Prod.ext_iff]

end RNacos.Components
