import RNacos.Lemmas.MgrBasic
/-
The part of the invariant `Chain` that can be read off the persisted catalogue (`RaftIndexDto.logs`), as a
decidable check: the correspondence run applies it to the catalogue the real `RaftLogManager` has written after every
operation.  `chain_rowsOK` says the check is implied by the invariant the refinement theorems rest on.

What the rows do not hold is not checked: that the records of a file carry the indexes `start + j` (`FileInv.ok`), that
`count` is their number, and where the open file ends (its `count` is 0); for the last, `lastOK` compares the open file
with the next index the store reports.
-/
namespace RNacos.LogManager

def rowsOK : List CatRow → Bool
  | [] => true
  | [l] => !l.closed && decide (l.start ≤ l.splitOff)
  | f :: g :: r =>
    f.closed && decide (f.start ≤ f.splitOff) && decide (f.splitOff ≤ f.start + f.count) &&
      decide (f.start + f.count = g.splitOff) && rowsOK (g :: r)

theorem chain_rowsOK (fs : List File) (hc : Chain fs) : rowsOK (catalogue fs) = true := by
  induction fs with
  | nil => rfl
  | cons f r ih =>
    cases r with
    | nil => simp [catalogue, rowsOK, hc.2, hc.1.lo]
    | cons g r =>
      obtain ⟨⟨hcl, hcount⟩, hfi, hadj, hrest⟩ := hc
      have := ih hrest; have := hfi.lo; have := hfi.hi
      simp only [catalogue, List.map_cons, rowsOK, endIdx] at *
      simp [*]; omega

/-- the open file's split point and start are at or below the next expected index; no file ⇔ no expected index -/
def lastOK (rows : List CatRow) (next : Option Nat) : Bool :=
  match rows.getLast?, next with
  | none, none => true
  | some l, some n => decide (l.splitOff ≤ n) && decide (l.start ≤ n)
  | _, _ => false

theorem chain_lastOK (fs : List File) (hc : Chain fs) : lastOK (catalogue fs) (absNext fs) = true := by
  rcases snoc_cases fs with rfl | ⟨ys, l, rfl⟩
  · rfl
  · obtain ⟨_, hl, _⟩ := (chain_snoc_iff ys l).1 hc
    have h1 := hl.lo; have h2 := hl.hi
    simp only [lastOK, catalogue, List.map_append, List.map_cons, List.map_nil, List.getLast?_concat, absNext_snoc]
    simp; omega

end RNacos.LogManager
