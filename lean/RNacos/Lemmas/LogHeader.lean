import RNacos.Model.LogFile
import RNacos.Base.BigEndian
/-
The header of a log file, and what `write`, `strip_log_to`, the repair loop of `init` and the look-up of the last term
leave alone: the header fields (and with them the geometry), the start index and the split-off (`Static`); the look-up
of the last term changes hardly more (`TermOnly`).  These are facts about the model alone, no invariant is needed.
(That `init` finds the header fields of a well-formed file again is `load_eq`, Lemmas/LogLoad.)
-/
namespace RNacos.LogFile

/-- the header that `f` was created with -/
abbrev hdr (f : LogFile) : List Nat := header f.hdrTerm f.firstIndex f.interval f.areaEnd

theorem beN_length (w n : Nat) : (beN w n).length = w := by simp [beN]

theorem header_length (a b c d : Nat) : (header a b c d).length = 32 := by
  simp [header, beN_length]

theorem unbeN_beN (w n : Nat) (h : n < 256 ^ w) : unbeN (beN w n) = n := by
  rw [unbeN, beN, BE.foldl_digits_of_lt h]

/-- the field `beN w v` that stands behind the prefix `P` of `L`, read back at offset `n = P.length` -/
theorem unbeN_field (P L : List Nat) (w v n : Nat) (hv : v < 256 ^ w) (hP : P.length = n) (h : P ++ beN w v <+: L) :
    unbeN ((L.drop n).take w) = v := by
  obtain ⟨C, rfl⟩ := h
  subst hP
  rw [List.append_assoc, List.drop_left, List.take_left' (beN_length w v), unbeN_beN w v hv]

/-- `init` reads back the header it wrote: 6, 14, 22 and 24 are the offsets of `last_term`, `first_index`, `data_area_index`
and `index_interval` in `LogIndexHeaderDo`, behind the magic number and the version -/
theorem header_fields (t fi iv ae : Nat) (rest : List Nat) (ht : t < 2 ^ 64) (hf : fi < 2 ^ 64) (hi : iv < 65536)
    (ha : ae < 65536) :
    unbeN (((header t fi iv ae ++ rest).drop 6).take 8) = t ∧
    unbeN (((header t fi iv ae ++ rest).drop 14).take 8) = fi ∧
    unbeN (((header t fi iv ae ++ rest).drop 22).take 2) = ae ∧
    unbeN (((header t fi iv ae ++ rest).drop 24).take 2) = iv := by
  unfold header
  -- each field ends a prefix of the header; what follows it is appended in 3 to 6 steps
  have p1 : ∀ {X Y a : List Nat}, X <+: Y → X <+: Y ++ a := List.prefix_append_of_prefix
  have p3 : ∀ {X a b c : List Nat}, X <+: X ++ a ++ b ++ c := p1 (p1 (List.prefix_append _ _))
  exact ⟨unbeN_field (beN 4 0x42313644 ++ beN 2 0) _ 8 t 6 ht (by simp [beN_length]) (p1 (p1 (p1 p3))),
    unbeN_field (beN 4 0x42313644 ++ beN 2 0 ++ beN 8 t) _ 8 fi 14 hf (by simp [beN_length]) (p1 (p1 p3)),
    unbeN_field (beN 4 0x42313644 ++ beN 2 0 ++ beN 8 t ++ beN 8 fi) _ 2 ae 22 ha (by simp [beN_length]) (p1 p3),
    unbeN_field (beN 4 0x42313644 ++ beN 2 0 ++ beN 8 t ++ beN 8 fi ++ beN 2 ae) _ 2 iv 24 hi (by simp [beN_length]) p3⟩

/-- `g` has the header fields, the start index and the split-off of `f` (`term` is the header's `last_term`, written at
creation only, not the cached term of `TermOnly`) -/
structure Static (f g : LogFile) : Prop where
  start : g.startIndex = f.startIndex
  ivl : g.interval = f.interval
  area : g.areaEnd = f.areaEnd
  split : g.splitOff = f.splitOff
  term : g.hdrTerm = f.hdrTerm
  first : g.firstIndex = f.firstIndex

theorem Static.refl (f : LogFile) : Static f f := ⟨rfl, rfl, rfl, rfl, rfl, rfl⟩

theorem Static.trans {f g h : LogFile} (a : Static f g) (b : Static g h) : Static f h :=
  ⟨b.start.trans a.start, b.ivl.trans a.ivl, b.area.trans a.area, b.split.trans a.split, b.term.trans a.term,
    b.first.trans a.first⟩

theorem Static.hdr_eq {f g : LogFile} (h : Static f g) : hdr g = hdr f := by
  rw [hdr, h.term, h.first, h.ivl, h.area]

/-- all that the look-up of the last term, at the end of `init` and of `strip_log_to`, does to a file: nothing, or
(when `read_records` gets as far as reading) a seek is left pending and the cached term replaced -/
def TermOnly (f g : LogFile) : Prop := g = f ∨ ∃ t, g = { f with needSeek := true, lastTerm := t }

theorem refreshTerm_termOnly (f : LogFile) (k : Nat) : TermOnly f (refreshTerm f k) := by
  unfold refreshTerm
  split
  · split
    · exact .inr ⟨_, rfl⟩
    · exact .inl rfl
  · exact .inl rfl

theorem initTerm_termOnly (f : LogFile) (t : Nat) : TermOnly f (initTerm f t) := by
  unfold initTerm
  split
  · split
    · exact .inl rfl
    · split
      · exact .inr ⟨_, rfl⟩
      · exact .inl rfl
  · exact .inl rfl

theorem TermOnly.static {f g : LogFile} (h : TermOnly f g) : Static f g := by
  obtain rfl | ⟨t, rfl⟩ := h
  · exact .refl g
  · exact ⟨rfl, rfl, rfl, rfl, rfl, rfl⟩

theorem TermOnly.endIndex {f g : LogFile} (h : TermOnly f g) : endIndex g = endIndex f := by
  obtain rfl | ⟨t, rfl⟩ := h <;> rfl

theorem endIndex_initTerm (f : LogFile) (t : Nat) : endIndex (initTerm f t) = endIndex f :=
  (initTerm_termOnly f t).endIndex

theorem endIndex_refreshTerm (f : LogFile) (k : Nat) : endIndex (refreshTerm f k) = endIndex f :=
  (refreshTerm_termOnly f k).endIndex

theorem splitOff_refreshTerm (f : LogFile) (k : Nat) : (refreshTerm f k).splitOff = f.splitOff :=
  (refreshTerm_termOnly f k).static.split

theorem Static.ite {f g g' : LogFile} {c : Prop} [Decidable c] (a : Static f g) (b : Static f g') :
    Static f (if c then g else g') := by
  split <;> assumption

theorem write_static (f : LogFile) (r : Rec) : Static f (write f r).1 := by
  unfold write
  rw [apply_ite Prod.fst, apply_ite Prod.fst]
  exact .ite (.refl f) (.ite (.refl f) (.ite ⟨rfl, rfl, rfl, rfl, rfl, rfl⟩ ⟨rfl, rfl, rfl, rfl, rfl, rfl⟩))

theorem stripCore_static (f : LogFile) (k : Nat) (idx : Idx) (len pop : Nat) : Static f (stripCore f k idx len pop) := by
  unfold stripCore
  split <;> exact ⟨rfl, rfl, rfl, rfl, rfl, rfl⟩

theorem strip_static {f f' : LogFile} {k : Nat} (h : strip f k = some f') : Static f f' := by
  unfold strip at h
  split at h
  · cases h
    exact .refl f
  · split at h
    · cases h
    next idx len pop _ =>
      cases h
      exact (stripCore_static f k idx len pop).trans (refreshTerm_termOnly _ k).static

theorem repairIndex_static (fuel : Nat) (f : LogFile) : Static f (repairIndex fuel f) := by
  induction fuel generalizing f with
  | zero => exact .refl f
  | succ n ih =>
    unfold repairIndex
    split
    · exact .refl f
    · refine .trans ?_ (ih _)
      exact ⟨rfl, rfl, rfl, rfl, rfl, rfl⟩

/-- whatever the bytes hold, `init` opens the file at the index that the catalogue passes, and with its split-off unless
that lies below the index (`max(split_off_index, start_index)`) -/
theorem load_start (b : List Nat) (fl s pre sp : Nat) :
    (load b fl s pre sp).startIndex = s ∧ (load b fl s pre sp).splitOff = max sp s := by
  unfold load
  simp only
  rw [(initTerm_termOnly _ _).static.start, (initTerm_termOnly _ _).static.split, (repairIndex_static _ _).start,
    (repairIndex_static _ _).split]
  exact ⟨rfl, rfl⟩

end RNacos.LogFile
