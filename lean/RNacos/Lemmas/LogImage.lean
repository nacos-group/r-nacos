import RNacos.Lemmas.LogScan
import RNacos.Lemmas.LogIndex
import RNacos.Lemmas.WriteAt
/-
The bytes of a log file as a function of what it holds (`image`, `IsImage`), the four file writes of the model as steps
between images, and the scan of the records of an image.
-/
namespace RNacos.LogFile
open RNacos.Varint RNacos.Spec.Stream RNacos.FileReader
open RNacos.IndexFile (writeAt writeAt_append)

/-- header `H`, the first `j` offset steps of the index area of `es` padded by `Z`, the records of `es`, padding `z` -/
def image (H : List Nat) (I : Nat) (es : List Rec) (j : Nat) (Z z : List Nat) : List Nat :=
  H ++ (idxBytesUpTo I es j ++ Z) ++ (dataBytes es ++ z)

/-- the header has its 32 bytes, and the index area with its padding `Z` ends where the records start -/
def Fits (H : List Nat) (I : Nat) (es : List Rec) (j : Nat) (Z : List Nat) : Prop :=
  H.length = 32 ∧ 32 + (idxBytesUpTo I es j).length + Z.length = dataStart

/-- `B` is a file with header `H` that holds the records of `es` and the first `j` offset steps of their index area, all
else zero.  A file in use has `j = es.length / I` (`WF.image`); the file between the two writes of an append or of a
truncation, and the one a crash leaves there, has fewer. -/
def IsImage (H : List Nat) (I : Nat) (es : List Rec) (j : Nat) (B : List Nat) : Prop :=
  ∃ Z z, B = image H I es j Z z ∧ Fits H I es j Z ∧ AllZero Z ∧ AllZero z

variable {H : List Nat} {I : Nat} {es : List Rec} {j : Nat} {Z z B : List Nat}

theorem image_split (H : List Nat) (I : Nat) (es : List Rec) (j : Nat) (Z z : List Nat) (m : Nat) :
    image H I es j Z z =
      (H ++ (idxBytesUpTo I es j ++ Z) ++ dataBytes (es.take m)) ++ (dataBytes (es.drop m) ++ z) := by
  unfold image; rw [dataBytes_take_drop es m]; simp only [List.append_assoc]

theorem image_split_idx (H : List Nat) (I : Nat) (es : List Rec) (j : Nat) (Z z : List Nat) :
    image H I es j Z z = (H ++ idxBytesUpTo I es j) ++ (Z ++ (dataBytes es ++ z)) := by
  unfold image; simp only [List.append_assoc]

theorem Fits.length_upto (h : Fits H I es j Z) (m : Nat) :
    (H ++ (idxBytesUpTo I es j ++ Z) ++ dataBytes (es.take m)).length = offsetOf es m := by
  unfold offsetOf; simp only [List.length_append, h.1]; have := h.2; omega

theorem Fits.of_prefix {a b : List Rec} (hp : a <+: b) (hj : j * I ≤ a.length) : Fits H I b j Z ↔ Fits H I a j Z := by
  unfold Fits; rw [idxBytesUpTo_of_prefix I hp hj]

theorem IsImage.length_ge (h : IsImage H I es j B) : 32 + (idxBytesUpTo I es j).length ≤ B.length := by
  obtain ⟨Z, z, rfl, hfit, -, -⟩ := h
  unfold image; simp only [List.length_append, hfit.1]; omega

/-! ### the four file writes
Each proof splits the image at the offset of the write (`image_split`, `image_split_idx`), so that `writeAt_append`
applies, and reads what is left as an image again. -/

/-- the first write of `write`: the record goes behind the last one -/
theorem IsImage.append (h : IsImage H I es j B) (hj : j * I ≤ es.length) (r : Rec) :
    IsImage H I (es ++ [r]) j (writeAt B (offsetOf es es.length) (frame (recBody r))) := by
  obtain ⟨Z, z, rfl, hfit, hZ, hz⟩ := h
  refine ⟨Z, z.drop (frame (recBody r)).length, ?_, (Fits.of_prefix (List.prefix_append es [r]) hj).mpr hfit, hZ,
    hz.drop _⟩
  rw [image_split H I es j Z z es.length, writeAt_append _ _ _ _ (hfit.length_upto _).symm, List.drop_length,
    List.take_length]
  unfold image
  rw [idxBytesUpTo_of_prefix I (List.prefix_append es [r]) hj, dataBytes_append, dataBytes_single]
  simp [dataBytes_nil]

/-- the second write of `write`, and each round of `init`'s repair: the next offset step goes behind the last one; an index
area that ends ten bytes before its limit `A` (`data_area_index`) has room for any varint -/
theorem IsImage.index (h : IsImage H I es j B) {A : Nat} (hc : 32 + (idxBytesUpTo I es j).length + 10 < A)
    (hA : A ≤ dataStart) :
    IsImage H I es (j + 1) (writeAt B (32 + (idxBytesUpTo I es j).length) (vwrite (stepOf I es j))) := by
  obtain ⟨Z, z, rfl, hfit, hZ, hz⟩ := h
  have hsum := hfit.2
  have hd : (vwrite (stepOf I es j)).length ≤ Z.length := by have := vwrite_length_le (stepOf I es j); omega
  refine ⟨Z.drop (vwrite (stepOf I es j)).length, z, ?_, ⟨hfit.1, ?_⟩, hZ.drop _, hz⟩
  · rw [image_split_idx, writeAt_append _ _ _ _ (by rw [List.length_append, hfit.1]), List.drop_append_of_le_length hd]
    unfold image; rw [idxBytesUpTo_succ]; simp only [List.append_assoc]
  · rw [idxBytesUpTo_succ, List.length_append, List.length_drop]; omega

/-- the first write of `strip_log_to`: the offset steps behind step `j` are zeroed -/
theorem IsImage.unindex {q : Nat} (h : IsImage H I es q B) (hjq : j ≤ q) :
    IsImage H I es j (writeAt B (32 + (idxBytesUpTo I es j).length) (List.replicate (tailLen I es q j) 0)) := by
  obtain ⟨Z, z, rfl, hfit, hZ, hz⟩ := h
  obtain ⟨X, hX⟩ := idxBytesUpTo_prefix I es hjq
  have hXl : tailLen I es q j = X.length := by unfold tailLen; rw [← hX]; simp
  refine ⟨List.replicate (tailLen I es q j) 0 ++ Z, z, ?_, ⟨hfit.1, ?_⟩, (allZero_replicate _).append hZ, hz⟩
  · rw [image_split_idx, ← hX, ← List.append_assoc H, List.append_assoc _ X,
      writeAt_append _ _ _ _ (by rw [List.length_append, hfit.1]), List.length_replicate, hXl, List.drop_left]
    unfold image; simp only [List.append_assoc]
  · have := hfit.2
    rw [← hX, List.length_append] at this
    rw [List.length_append, List.length_replicate, hXl]; omega

/-- the second write of `strip_log_to`: the records from number `n` on are zeroed -/
theorem IsImage.cut (h : IsImage H I es j B) (n : Nat) (hn : n ≤ es.length) (hj : j * I ≤ n) :
    IsImage H I (es.take n) j (writeAt B (offsetOf es n) (List.replicate (offsetOf es es.length - offsetOf es n) 0)) := by
  obtain ⟨Z, z, rfl, hfit, hZ, hz⟩ := h
  have hj' : j * I ≤ (es.take n).length := by rw [List.length_take, Nat.min_eq_left hn]; exact hj
  have hrem : offsetOf es es.length - offsetOf es n = (dataBytes (es.drop n)).length := by
    rw [offsetOf_length, offsetOf, dataBytes_take_drop es n, List.length_append, ← Nat.add_assoc, Nat.add_sub_cancel_left]
  refine ⟨Z, List.replicate (offsetOf es es.length - offsetOf es n) 0 ++ z, ?_,
    (Fits.of_prefix (List.take_prefix n es) hj').mp hfit, hZ, (allZero_replicate _).append hz⟩
  rw [image_split H I es j Z z n, writeAt_append _ _ _ _ (hfit.length_upto _).symm, List.length_replicate, hrem,
    List.drop_left]
  unfold image
  rw [idxBytesUpTo_of_prefix I (List.take_prefix n es) hj']
  simp only [List.append_assoc]

/-! ### the readers at record number `m` of an image -/

theorem IsImage.at (h : IsImage H I es j B) (hok : ∀ r ∈ es, RecOK r) (m : Nat) :
    ∃ z, At ⟨B, offsetOf es m⟩ ((es.drop m).map recBody) z := by
  obtain ⟨Z, z, rfl, h, -, hz⟩ := h
  refine ⟨z, bodiesOK_of_recOK _ fun r hr => hok r (List.mem_of_mem_drop hr), hz.tailOK, ?_⟩
  rw [image_split H I es j Z z m, ← h.length_upto m]
  exact List.drop_left

theorem moveByCount_image (h : IsImage H I es j B) (hok : ∀ r ∈ es, RecOK r) (start m c : Nat) (hm : m ≤ es.length) :
    moveByCount B ⟨start + m, offsetOf es m⟩ start c =
      (offsetOf es (min (m + c) es.length), min (m + c) es.length) := by
  obtain ⟨z, hat⟩ := h.at hok m
  have hmin : min (m + c) es.length = m + min c (es.drop m).length := by rw [List.length_drop]; omega
  rw [moveByCount_stream hat, hmin, offsetOf_add, ← List.take_eq_take_min, ← List.map_take, List.length_map]
  exact Prod.ext rfl (by simp only; omega)

theorem readIndexPosition_image (h : IsImage H I es j B) (hok : ∀ r ∈ es, RecOK r) {m n : Nat} (hmn : m ≤ n)
    (hn : n < es.length) : (readIndexPosition (n - m) ⟨B, offsetOf es m⟩).map (·.1.1) = some (offsetOf es n) := by
  obtain ⟨i, rfl⟩ := Nat.exists_eq_add_of_le hmn
  obtain ⟨z, hat⟩ := h.at hok m
  have hp := readIndexPosition_stream _ i _ z hat
  rw [dif_pos (by rw [List.length_map, List.length_drop]; omega), ← List.map_take] at hp
  rw [Nat.add_sub_cancel_left, offsetOf_add]
  exact (Option.map_map ..).symm.trans (congrArg (Option.map (·.1)) hp)

end RNacos.LogFile
