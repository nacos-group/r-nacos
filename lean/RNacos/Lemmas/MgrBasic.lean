import RNacos.Model.LogManager
/-
Invariant of the manager-level model and basic facts: the visible ranges of the files are adjacent
(`endIdx f = g.splitOff` for consecutive files), every file but the last is closed with the right record count,
the last one is open, every file holds the records `start, start+1, …`.

`Sim` is the simulation relation to the list specification.  A catalogue is taken apart at its last file, where the
operations write (`sim_some`), or at any file, where a cut lands (`chain_append`: a `Pre` prefix and a catalogue;
`chain_mem`: what the invariant says of the file there).
-/
namespace RNacos.LogManager
open RNacos.LogStore (Ent Store)

structure FileInv (f : File) : Prop where
  ok : ∀ j (h : j < f.recs.length), (f.recs[j]).index = f.start + j
  lo : f.start ≤ f.splitOff
  hi : f.splitOff ≤ endIdx f

def Closed (f : File) : Prop := f.closed = true ∧ f.count = f.recs.length

/-- the whole catalogue, first file first -/
def Chain : List File → Prop
  | [] => True
  | [l] => FileInv l ∧ l.closed = false
  | f :: g :: r => Closed f ∧ FileInv f ∧ endIdx f = g.splitOff ∧ Chain (g :: r)

/-- closed files with adjacent visible ranges, the last one ending at `e`; the empty prefix ends anywhere (`Pre [] e` is
`True`), which is what lets `chain_append` split a catalogue in front of its first file too -/
def Pre : List File → Nat → Prop
  | [], _ => True
  | [f], e => Closed f ∧ FileInv f ∧ endIdx f = e
  | f :: g :: r, e => Closed f ∧ FileInv f ∧ endIdx f = g.splitOff ∧ Pre (g :: r) e

/-- the simulation relation to the list specification (`s.ents`, `s.next` of a `LogStore.Store`): the well-formed
catalogue `fs` shows the log `ents` and expects index `next` -/
def Sim (fs : List File) (ents : List Ent) (next : Option Nat) : Prop := Chain fs ∧ absEnts fs = ents ∧ absNext fs = next

theorem chain_append (xs : List File) (y : File) (ys : List File) :
    Chain (xs ++ y :: ys) ↔ Pre xs y.splitOff ∧ Chain (y :: ys) := by
  induction xs with
  | nil => simp [Pre]
  | cons x xs ih =>
    cases xs with
    | nil => simp only [List.cons_append, List.nil_append, Chain, Pre, and_assoc]
    | cons z zs =>
      simp only [List.cons_append] at ih ⊢
      simp only [Chain, Pre, ih, and_assoc]

theorem chain_snoc_iff (ys : List File) (l : File) :
    Chain (ys ++ [l]) ↔ Pre ys l.splitOff ∧ FileInv l ∧ l.closed = false :=
  chain_append ys l []

theorem chain_tail (f g : File) (r : List File) (hc : Chain (f :: g :: r)) : Chain (g :: r) := hc.2.2.2

theorem fileInv_flags (f : File) (h : FileInv f) (b : Bool) (n : Nat) : FileInv { f with closed := b, count := n } :=
  ⟨h.ok, h.lo, h.hi⟩

/-- the operations act on the last file (`getLast?`, `dropLast`), so their equations are stated on `ys ++ [l]`; this is
how a proof gets there (core's `List.eq_nil_or_concat`, with `++` for `concat`) -/
theorem snoc_cases (fs : List File) : fs = [] ∨ ∃ ys l, fs = ys ++ [l] := by
  rcases List.eq_nil_or_concat fs with h | ⟨ys, l, h⟩
  · exact Or.inl h
  · exact Or.inr ⟨ys, l, by simpa using h⟩

theorem pre_mem : ∀ (ys : List File) (e : Nat), Pre ys e → ∀ f ∈ ys, Closed f ∧ FileInv f ∧ endIdx f ≤ e
  | [], _, _, _, hf => nomatch hf
  | [y], e, h, f, hf => by
    obtain rfl := List.mem_singleton.1 hf
    exact ⟨h.1, h.2.1, Nat.le_of_eq h.2.2⟩
  | y :: z :: zs, e, h, f, hf => by
    have ih := pre_mem (z :: zs) e h.2.2.2
    rcases List.mem_cons.1 hf with rfl | hf
    · have hz := ih z (by simp); have := hz.2.1.hi; have := h.2.2.1
      exact ⟨h.1, h.2.1, by omega⟩
    · exact ih f hf

theorem pre_head_le (y : File) (ys : List File) (e : Nat) (h : Pre (y :: ys) e) : y.splitOff ≤ e := by
  have := pre_mem _ _ h y (by simp)
  have := this.2.1.hi
  omega

/-- what the invariant says of a file `y` anywhere in the catalogue and of the files `ys` behind it: the loops' test
`k < get_log_range_end_index()` (`belowRangeEnd`: it reads `count` of a closed file and lets every `k` pass on the open
one) is `k < endIdx y` except on the last file, the visible ranges behind `y` begin at or above its end, and the last
file is open -/
theorem chain_mem (xs : List File) (y : File) (ys : List File) (hc : Chain (xs ++ y :: ys)) :
    FileInv y ∧ (∀ k, belowRangeEnd k y = true ↔ ys = [] ∨ k < endIdx y) ∧ (∀ h ∈ ys, endIdx y ≤ h.splitOff) ∧
      (ys = [] → y.closed = false) := by
  have hy := ((chain_append xs y ys).1 hc).2
  have hle : ∀ h ∈ ys, endIdx y ≤ h.splitOff := fun h hh => by
    obtain ⟨a, b, rfl⟩ := List.append_of_mem hh
    have hc' : Chain ((xs ++ y :: a) ++ h :: b) := by simpa using hc
    exact (pre_mem _ _ ((chain_append _ h b).1 hc').1 y (by simp)).2.2
  cases ys with
  | nil => exact ⟨hy.1, fun k => by simp [belowRangeEnd, rangeEnd, hy.2], hle, fun _ => hy.2⟩
  | cons g r => exact ⟨hy.2.1, fun k => by simp [belowRangeEnd, rangeEnd, hy.1.1, hy.1.2, endIdx], hle, by simp⟩

theorem chain_mem_inv (fs : List File) (hc : Chain fs) : ∀ f ∈ fs, FileInv f := by
  intro f hf
  obtain ⟨xs, ys, rfl⟩ := List.append_of_mem hf
  exact (chain_mem xs f ys hc).1

theorem absEnts_cons (f : File) (fs : List File) : absEnts (f :: fs) = visible f ++ absEnts fs := rfl

theorem absEnts_append (xs ys : List File) : absEnts (xs ++ ys) = absEnts xs ++ absEnts ys := List.flatMap_append

theorem absEnts_snoc (ys : List File) (l : File) : absEnts (ys ++ [l]) = absEnts ys ++ visible l := by
  simp [absEnts]

theorem absNext_snoc (ys : List File) (l : File) : absNext (ys ++ [l]) = some (endIdx l) := by
  simp [absNext]

theorem absNext_append (xs ys : List File) (h : ys ≠ []) : absNext (xs ++ ys) = absNext ys := by
  simp [absNext, List.getLast?_eq_some_getLast h]

theorem sim_none {fs : List File} {ents : List Ent} : Sim fs ents none ↔ fs = [] ∧ ents = [] := by
  rcases snoc_cases fs with rfl | ⟨ys, l, rfl⟩ <;> simp [Sim, Chain, absEnts, absNext]

theorem sim_snoc {ys : List File} {l : File} (hl : FileInv l) (ho : l.closed = false) (hp : Pre ys l.splitOff) :
    Sim (ys ++ [l]) (absEnts ys ++ visible l) (some (endIdx l)) :=
  ⟨(chain_snoc_iff ys l).2 ⟨hp, hl, ho⟩, absEnts_snoc ys l, absNext_snoc ys l⟩

/-- a catalogue that expects an index has a last file, the open one; every `Sim` with `some` is a `sim_snoc` -/
theorem sim_some {fs : List File} {ents : List Ent} {n : Nat} (h : Sim fs ents (some n)) :
    ∃ ys l, fs = ys ++ [l] ∧ ents = absEnts ys ++ visible l ∧ n = endIdx l ∧
      Pre ys l.splitOff ∧ FileInv l ∧ l.closed = false := by
  obtain ⟨hc, he, hn⟩ := h
  rcases snoc_cases fs with rfl | ⟨ys, l, rfl⟩
  · cases hn
  · exact ⟨ys, l, rfl, he.symm.trans (absEnts_snoc ys l), by simpa [absNext_snoc] using hn.symm, (chain_snoc_iff ys l).1 hc⟩

theorem mem_recs_bounds (f : File) (hf : FileInv f) (e : Ent) (he : e ∈ f.recs) :
    f.start ≤ e.index ∧ e.index < endIdx f := by
  obtain ⟨j, hj, rfl⟩ := List.getElem_of_mem he
  have := hf.ok j hj
  simp only [endIdx]; omega

theorem mem_visible_bounds (f : File) (hf : FileInv f) (e : Ent) (he : e ∈ visible f) :
    f.splitOff ≤ e.index ∧ e.index < endIdx f := by
  simp only [visible, List.mem_filter, decide_eq_true_eq] at he
  exact ⟨he.2, (mem_recs_bounds f hf e he.1).2⟩

theorem absEnts_lt (fs : List File) (k : Nat) (h : ∀ f ∈ fs, FileInv f ∧ endIdx f ≤ k) :
    ∀ e ∈ absEnts fs, e.index < k := by
  intro e he
  obtain ⟨f, hf, hef⟩ := List.mem_flatMap.1 he
  have := (mem_visible_bounds f (h f hf).1 e hef).2; have := (h f hf).2
  omega

theorem absEnts_ge (fs : List File) (k : Nat) (h : ∀ f ∈ fs, k ≤ f.splitOff) :
    ∀ e ∈ absEnts fs, k ≤ e.index := by
  intro e he
  obtain ⟨f, hf, hef⟩ := List.mem_flatMap.1 he
  have := of_decide_eq_true (List.mem_filter.1 hef).2; have := h f hf
  omega

theorem sim_lt_next {fs : List File} {ents : List Ent} {n : Nat} (h : Sim fs ents (some n)) :
    ∀ e ∈ ents, e.index < n := by
  obtain ⟨ys, l, rfl, rfl, rfl, hp, hl, _⟩ := sim_some h
  intro e he
  rcases List.mem_append.1 he with he | he
  · have := absEnts_lt ys _ (fun f hf => (pre_mem ys _ hp f hf).2) e he; have := hl.hi
    omega
  · exact (mem_visible_bounds l hl e he).2

theorem readFile_eq (a b : Nat) (f : File) (hf : FileInv f) :
    readFile a b f = (visible f).filter (fun e => decide (a ≤ e.index ∧ e.index < b)) := by
  simp only [readFile, visible, List.filter_filter]
  apply List.filter_congr
  intro e he
  have hb := (mem_recs_bounds f hf e he).1
  have := hf.lo
  rw [Bool.eq_iff_iff]
  simp only [Bool.and_eq_true, decide_eq_true_eq, Nat.max_le]
  omega

/-- **reads**: what `get_log_entries(a, b)` collects from the files is the visible log restricted to `[a, b)` -/
theorem get_spec (fs : List File) (s : Store) (p : Option (Nat × Nat)) (h : Sim fs s.ents s.next) (a b : Nat) :
    get ⟨fs, p⟩ a b = LogStore.get s a b := by
  simp only [get, LogStore.get, ← h.2.1, absEnts, List.filter_flatMap]
  rw [List.flatMap_def, List.flatMap_def,
    List.map_congr_left fun f hf => readFile_eq a b f (chain_mem_inv fs h.1 f hf)]

/-! ### the list specification by itself (`Model/LogStore`): how a batch unrolls, what a cut keeps -/

/-- the entries of a replicated batch carry consecutive indexes -/
def Contig : List Ent → Prop
  | [] => True
  | [_] => True
  | a :: b :: r => b.index = a.index + 1 ∧ Contig (b :: r)

theorem Contig.tail : ∀ {e : Ent} {es : List Ent}, Contig (e :: es) → Contig es
  | _, [], _ => trivial
  | _, _ :: _, h => h.2

open RNacos.LogStore (append deleteFrom)

/-- a batch unrolls entry by entry, and what the first entry meets decides for all -/
theorem _root_.RNacos.LogStore.append_cons (s : Store) (e : Ent) (es : List Ent) (hc : Contig (e :: es)) :
    append s (e :: es) = if (append s [e]).2 = true then append (append s [e]).1 es else append s [e] := by
  by_cases hacc : s.next = none ∨ s.next = some e.index
  · cases es with
    | nil => simp [append, hacc]
    | cons e2 es2 =>
      simp [append, hacc, hc.1, Nat.add_assoc, Nat.add_comm 1, List.getLast?_eq_some_getLast (List.cons_ne_nil e2 es2)]
  · simp [append, hacc]

/-- `deleteFrom` is the filter and the minimum outright once every entry is below `next` (`sim_lt_next`): a cut at or
beyond `next`, which `deleteFrom` leaves alone, then removes nothing either -/
theorem _root_.RNacos.LogStore.deleteFrom_eq (s : Store) (n k : Nat) (hn : s.next = some n)
    (hlt : ∀ e ∈ s.ents, e.index < n) :
    (deleteFrom s k).ents = s.ents.filter (fun e => decide (e.index < k)) ∧ (deleteFrom s k).next = some (min n k) := by
  simp only [deleteFrom, hn]
  split
  · exact ⟨(List.filter_eq_self.2 fun e he => by have := hlt e he; simp; omega).symm,
      hn.trans (congrArg some (Nat.min_eq_left ‹_›).symm)⟩
  · exact ⟨rfl, congrArg some (Nat.min_eq_right (by omega)).symm⟩

end RNacos.LogManager
