import RNacos.Model.Naming
import RNacos.Base.FoldLook
/-
One `Service`.  Two views of every operation: what it does to the instance stored under an address
(`get?_…`, equations), and that it keeps the invariant `SvcInv` (counters and the persistent set mirror the
instance map); for each operation the equations come first.  Registration, removal and the probes change the map at
one address, by `AL.set` or `AL.erase`: `SvcInv.put` and `svcInv_dropInst` are the two cases.  A time check is a fold
of such steps (`passStep`); `refreshRange` leaves the map alone.
-/
namespace RNacos.Naming

structure SvcInv (s : Svc) : Prop where
  nodup : AL.NodupKeys s.insts
  keyed : ∀ k i, AL.get? s.insts k = some i → i.short = k
  size : s.instSize = s.insts.length
  healthy : s.healthySize = (s.insts.filter (·.2.healthy)).length
  perp : ∀ k, k ∈ s.perpetual ↔ ∃ i, AL.get? s.insts k = some i ∧ i.ephemeral = false
  perpNodup : s.perpetual.Nodup

theorem mem_setInsert {α : Type} [DecidableEq α] (l : List α) (a b : α) : b ∈ setInsert l a ↔ b = a ∨ b ∈ l := by
  unfold setInsert
  split
  · next h => exact ⟨Or.inr, fun hb => hb.elim (· ▸ h) id⟩
  · simp [or_comm]

theorem nodup_setInsert {α : Type} [DecidableEq α] (l : List α) (a : α) (h : l.Nodup) : (setInsert l a).Nodup := by
  unfold setInsert
  split
  · exact h
  · next hn =>
    exact List.nodup_append.2 ⟨h, by simp, fun x hx y hy e => hn (List.mem_singleton.1 hy ▸ e ▸ hx)⟩

/-- The persistent set of a service and the namespace index of the registry are kept the same way: a duplicate-free list
of the `a` with `P a`, updated at `k` (`setInsert` / `erase`) when `P` changes at `k` (from `b0` to `b`), and neither
at another point nor where `P` stays as it is at `k`. -/
theorem listed_update {α : Type} [DecidableEq α] {l : List α} {P P' : α → Prop} (hn : l.Nodup) (hl : ∀ a, a ∈ l ↔ P a)
    (k : α) (b b0 : Bool) (hb0 : P k ↔ b0 = true) (hP' : ∀ a, P' a ↔ if k = a then b = true else P a) :
    (if b = b0 then l else if b then setInsert l k else l.erase k).Nodup ∧
      ∀ a, a ∈ (if b = b0 then l else if b then setInsert l k else l.erase k) ↔ P' a := by
  by_cases e : b = b0
  · rw [if_pos e]
    refine ⟨hn, fun a => ?_⟩
    rw [hP', hl]
    split
    · next ea => rw [← ea, hb0, e]
    · rfl
  rw [if_neg e]
  cases b
  · refine ⟨hn.erase _, fun a => ?_⟩
    rw [hP', if_neg Bool.false_ne_true, hn.mem_erase_iff, hl]
    split
    · next e => simp [e]
    · next e => simp [Ne.symm e]
  · refine ⟨nodup_setInsert _ _ hn, fun a => ?_⟩
    rw [hP', if_pos rfl, mem_setInsert, hl]
    split
    · next e => simp [e]
    · next e => simp [Ne.symm e]

theorem svcInv_empty : SvcInv {} :=
  ⟨by simp [AL.NodupKeys], by intro k i h; simp at h, rfl, rfl, by intro k; simp, by simp⟩

theorem SvcInv.insts_nil {s : Svc} (hs : SvcInv s) (h : s.instSize ≤ 0) : s.insts = [] :=
  List.eq_nil_of_length_eq_zero (by have := hs.size; omega)

/-! ### the invariant under a change at one address -/

theorem SvcInv.congr {s s' : Svc} (hs : SvcInv s) (hi : s'.insts = s.insts) (hz : s'.instSize = s.instSize)
    (hh : s'.healthySize = s.healthySize) (hp : s'.perpetual = s.perpetual) : SvcInv s' :=
  ⟨hi ▸ hs.nodup, hi ▸ hs.keyed, hz ▸ hi ▸ hs.size, hh ▸ hi ▸ hs.healthy, hp ▸ hi ▸ hs.perp, hp ▸ hs.perpNodup⟩

/-- **One address changes**: `s'` holds `o'` under `key` and what `s` holds elsewhere.  The clauses that read the map
through `get?` follow, if the persistent set is brought in line with `o'` at `key` - or left alone where `o'` is of the
persistence class of what `s` holds there, which is what the model's updates do.  The clauses that read the list depend
on how it is changed: by `AL.set` in `SvcInv.put`, by `AL.erase` in `svcInv_dropInst`. -/
theorem SvcInv.update {s s' : Svc} (hs : SvcInv s) (key : ShortKey) (o' : Option Inst)
    (hget : ∀ k, AL.get? s'.insts k = if key = k then o' else AL.get? s.insts k)
    (hkey : ∀ i, o' = some i → i.short = key) (hnd : AL.NodupKeys s'.insts)
    (hz : s'.instSize = s'.insts.length) (hh : s'.healthySize = (s'.insts.filter (·.2.healthy)).length)
    (hp : s'.perpetual = if o'.any (!·.ephemeral) = (AL.get? s.insts key).any (!·.ephemeral) then s.perpetual
      else if o'.any (!·.ephemeral) then setInsert s.perpetual key else s.perpetual.erase key) :
    SvcInv s' := by
  have hl := listed_update (P' := fun k => ∃ i, AL.get? s'.insts k = some i ∧ i.ephemeral = false)
    hs.perpNodup hs.perp key (o'.any (!·.ephemeral)) ((AL.get? s.insts key).any (!·.ephemeral))
    (by cases AL.get? s.insts key <;> simp) fun k => by
      rw [hget]; split
      · cases o' <;> simp
      · rfl
  rw [← hp] at hl
  refine ⟨hnd, fun k j hj => ?_, hz, hh, hl.2, hl.1⟩
  rw [hget] at hj
  split at hj
  · next e => exact e ▸ hkey j hj
  · exact hs.keyed k j hj

theorem SvcInv.put {s s' : Svc} (hs : SvcInv s) (i : Inst) (hi : s'.insts = AL.set s.insts i.short i)
    (hz : s'.instSize = s.instSize - (AL.get? s.insts i.short).isSome.toNat + 1)
    (hh : s'.healthySize = s.healthySize - ((AL.get? s.insts i.short).any (·.healthy)).toNat + i.healthy.toNat)
    (hp : s'.perpetual = if (!i.ephemeral) = (AL.get? s.insts i.short).any (!·.ephemeral) then s.perpetual
      else if !i.ephemeral then setInsert s.perpetual i.short else s.perpetual.erase i.short) :
    SvcInv s' :=
  hs.update i.short (some i) (fun k => by rw [hi, AL.get?_set]) (fun _ h => by cases h; rfl)
    (hi ▸ AL.nodupKeys_set _ _ _ hs.nodup) (by rw [hi, AL.length_set _ _ _ hs.nodup, hz, hs.size])
    (by rw [hi, AL.count_set _ _ _ _ hs.nodup, hh, hs.healthy]) hp

/-! ### registration -/

theorem keepOwner_healthy (i o : Inst) : (keepOwner i o).healthy = i.healthy := by unfold keepOwner; split <;> rfl
theorem keepOwner_short (i o : Inst) : (keepOwner i o).short = i.short := by unfold keepOwner; split <;> rfl
/-- a tag touches `enabled`, `ephemeral` and `weight` only -/
theorem applyTag_fst (i o : Inst) (t : Option Tag) :
    ∃ e p w, (applyTag i o t).1 = { i with enabled := e, ephemeral := p, weight := w } := by
  cases t with
  | none => exact ⟨i.enabled, i.ephemeral, i.weight, rfl⟩
  | some t =>
    by_cases h : (!t.isNone) = true
    · exact ⟨_, _, _, congrArg Prod.fst (if_pos h)⟩
    · exact ⟨_, _, _, congrArg Prod.fst (if_neg h)⟩

theorem applyTag_healthy (i o : Inst) (t : Option Tag) : (applyTag i o t).1.healthy = i.healthy := by
  obtain ⟨_, _, _, h⟩ := applyTag_fst i o t; rw [h]
theorem applyTag_short (i o : Inst) (t : Option Tag) : (applyTag i o t).1.short = i.short := by
  obtain ⟨_, _, _, h⟩ := applyTag_fst i o t; rw [h]; rfl
theorem applyTag_owner (i o : Inst) (t : Option Tag) :
    (applyTag i o t).1.clientId = i.clientId ∧ (applyTag i o t).1.fromGrpc = i.fromGrpc ∧
    (applyTag i o t).1.fromCluster = i.fromCluster := by
  obtain ⟨_, _, _, h⟩ := applyTag_fst i o t; rw [h]; exact ⟨rfl, rfl, rfl⟩

theorem svcInv_insertInst (s : Svc) (inst : Inst) (fromSync : Bool) (hs : SvcInv s)
    (hg : AL.get? s.insts inst.short = none) : SvcInv (s.insertInst inst fromSync) := by
  apply hs.put inst rfl <;> rw [hg]
  -- `show`: the field of the updated structure as the model writes it (the projection reduces by `rfl`)
  · show s.instSize + 1 = _; simp
  · show (if inst.healthy then s.healthySize + 1 else s.healthySize) = _
    cases inst.healthy <;> simp
  · show (if !inst.ephemeral then setInsert s.perpetual inst.short else s.perpetual) = _
    cases inst.ephemeral <;> rfl

/-- the persistent set is touched only where the persistence class changes -/
theorem replaceInst_perpetual (s : Svc) (old i2 : Inst) (fs : Bool) :
    (s.replaceInst old i2 fs).perpetual =
      if (!i2.ephemeral) = !old.ephemeral then s.perpetual
      else if !i2.ephemeral then setInsert s.perpetual i2.short else s.perpetual.erase i2.short := by
  show (if !i2.ephemeral && old.ephemeral then setInsert s.perpetual i2.short
        else if i2.ephemeral && !old.ephemeral then s.perpetual.erase i2.short else s.perpetual) = _
  cases i2.ephemeral <;> cases old.ephemeral <;> rfl

theorem svcInv_replaceInst (s : Svc) (old i2 : Inst) (fromSync : Bool) (hs : SvcInv s)
    (hg : AL.get? s.insts i2.short = some old) : SvcInv (s.replaceInst old i2 fromSync) := by
  apply hs.put i2 rfl <;> rw [hg]
  · show s.instSize = _; simp
  · show (if !old.healthy && i2.healthy then s.healthySize + 1
          else if old.healthy && !i2.healthy then s.healthySize - 1 else s.healthySize) = _
    rw [Option.any_some]
    cases old.healthy <;> cases i2.healthy <;> simp
  · exact replaceInst_perpetual s old i2 fromSync

/-- the instance `update_instance` stores for `inst` -/
def Svc.merge (s : Svc) (inst : Inst) (tag : Option Tag) : Inst :=
  match AL.get? s.insts inst.short with
  | some old => (applyTag (keepOwner inst old) old tag).1
  | none => inst

theorem merge_of_none {s : Svc} {inst : Inst} (h : AL.get? s.insts inst.short = none) (tag : Option Tag) :
    s.merge inst tag = inst := by rw [Svc.merge, h]

theorem merge_of_some {s : Svc} {inst old : Inst} (h : AL.get? s.insts inst.short = some old) (tag : Option Tag) :
    s.merge inst tag = (applyTag (keepOwner inst old) old tag).1 := by rw [Svc.merge, h]

theorem merge_short (s : Svc) (inst : Inst) (tag : Option Tag) : (s.merge inst tag).short = inst.short := by
  cases h : AL.get? s.insts inst.short with
  | none => rw [merge_of_none h]
  | some old => rw [merge_of_some h, applyTag_short, keepOwner_short]

theorem updateInstance_fst (s : Svc) (inst : Inst) (tag : Option Tag) (fs : Bool) :
    (s.updateInstance inst tag fs).1 =
      match AL.get? s.insts inst.short with
      | some old => s.replaceInst old (s.merge inst tag) fs
      | none => s.insertInst (s.merge inst tag) fs := by
  unfold Svc.updateInstance Svc.merge
  cases AL.get? s.insts inst.short <;> rfl

/-- the third component: the owner of the replaced instance, when the update does not keep it -/
theorem updateInstance_replaced (s : Svc) (inst : Inst) (tag : Option Tag) (fs : Bool) :
    (s.updateInstance inst tag fs).2.2 =
      (AL.get? s.insts inst.short).bind fun old =>
        if !old.clientId.isEmpty && (keepOwner inst old).clientId != old.clientId then some old.clientId else none := by
  unfold Svc.updateInstance
  cases AL.get? s.insts inst.short <;> rfl

theorem get?_updateInstance (s : Svc) (inst : Inst) (tag : Option Tag) (fs : Bool) (k : ShortKey) :
    AL.get? (s.updateInstance inst tag fs).1.insts k =
      if inst.short = k then some (s.merge inst tag) else AL.get? s.insts k := by
  -- `insertInst` and `replaceInst` store an instance under its own address
  rw [updateInstance_fst, ← merge_short s inst tag]
  cases AL.get? s.insts (s.merge inst tag).short <;> exact AL.get?_set _ _ _ _

theorem updateInstance_healthyTO (s : Svc) (inst : Inst) (tag : Option Tag) (fs : Bool) :
    (s.updateInstance inst tag fs).1.healthyTO =
      if (s.merge inst tag).enableTimeout && !fs then s.healthyTO ++ [((s.merge inst tag).lastModified, inst.short)]
      else s.healthyTO := by
  rw [updateInstance_fst, ← merge_short s inst tag]
  cases AL.get? s.insts (s.merge inst tag).short <;> rfl

theorem svcInv_updateInstance (s : Svc) (inst : Inst) (tag : Option Tag) (fromSync : Bool) (hs : SvcInv s) :
    SvcInv (s.updateInstance inst tag fromSync).1 := by
  rw [updateInstance_fst, ← merge_short s inst tag]
  cases hg : AL.get? s.insts (s.merge inst tag).short with
  | none => exact svcInv_insertInst s _ fromSync hs hg
  | some old => exact svcInv_replaceInst s old _ fromSync hs hg

/-! ### removal -/

theorem svcInv_dropInst (s : Svc) (key : ShortKey) (old : Inst) (now : Int) (hs : SvcInv s)
    (hg : AL.get? s.insts key = some old) : SvcInv (s.dropInst key old now) := by
  refine hs.update key none (AL.get?_erase _ _) (fun _ h => nomatch h) (AL.nodupKeys_erase _ _ hs.nodup) ?_ ?_ ?_
  · show s.instSize - 1 = ((AL.erase s.insts key).length : Int)
    rw [AL.length_erase _ _ hs.nodup, hg, hs.size]; rfl
  · show (if old.healthy then s.healthySize - 1 else s.healthySize) = (((AL.erase s.insts key).filter (·.2.healthy)).length : Int)
    rw [AL.count_erase _ _ _ hs.nodup, hg, hs.healthy, Option.any_some]
    cases old.healthy <;> simp
  · show (if !old.ephemeral then s.perpetual.erase key else s.perpetual) = _
    rw [hg, Option.any_some]
    cases old.ephemeral <;> rfl

/-- the guard of `Service::remove_instance`, as a property of the stored instance -/
def Inst.guarded (old : Inst) : Option String → Bool
  | some c => old.ephemeral && !c.isEmpty && old.clientId != c
  | none => false

theorem refuses_eq (s : Svc) (key : ShortKey) (c : Option String) :
    s.refuses key c = (AL.get? s.insts key).any (·.guarded c) := by
  unfold Svc.refuses
  cases c <;> cases AL.get? s.insts key <;> rfl

/-- Removal is a filter at the address: the instance the guard holds back stays (`get?_removeInstance`), any other
leaves. -/
theorem removeInstance_snd (s : Svc) (key : ShortKey) (c : Option String) (now : Int) :
    (s.removeInstance key c now).2 = (AL.get? s.insts key).filter (!·.guarded c) := by
  unfold Svc.removeInstance
  rw [refuses_eq]
  cases AL.get? s.insts key with
  | none => rfl
  | some old => cases h : old.guarded c <;> simp [Option.filter_some, h]

theorem removeInstance_fst (s : Svc) (key : ShortKey) (c : Option String) (now : Int) :
    (s.removeInstance key c now).1 =
      match (s.removeInstance key c now).2 with
      | some old => s.dropInst key old now
      | none => s := by
  unfold Svc.removeInstance
  split
  · rfl
  · cases AL.get? s.insts key <;> rfl

theorem get?_removeInstance (s : Svc) (key k : ShortKey) (c : Option String) (now : Int) :
    AL.get? (s.removeInstance key c now).1.insts k =
      if key = k then (AL.get? s.insts key).filter (·.guarded c) else AL.get? s.insts k := by
  rw [removeInstance_fst, removeInstance_snd]
  cases hg : AL.get? s.insts key with
  | none => exact AL.get?_ite_of_eq hg k
  | some old =>
    rw [Option.filter_some, Option.filter_some]
    cases old.guarded c
    · exact AL.get?_erase _ _ _
    · exact AL.get?_ite_of_eq hg k

theorem removeInstance_spec (s : Svc) (key : ShortKey) (c : Option String) (now : Int) :
    (∀ old, (s.removeInstance key c now).2 = some old →
        AL.get? s.insts key = some old ∧ (s.removeInstance key c now).1.insts = AL.erase s.insts key) ∧
    ((s.removeInstance key c now).2 = none → (s.removeInstance key c now).1 = s) := by
  rw [removeInstance_fst]
  refine ⟨fun old h => ?_, fun h => by rw [h]⟩
  rw [h]
  exact ⟨(Option.filter_eq_some_iff.1 ((removeInstance_snd s key c now).symm.trans h)).1, rfl⟩

theorem removeInstance_other (s : Svc) (key k : ShortKey) (c : Option String) (now : Int) (h : key ≠ k) :
    AL.get? (s.removeInstance key c now).1.insts k = AL.get? s.insts k := by
  rw [get?_removeInstance, if_neg h]

theorem svcInv_removeInstance (s : Svc) (key : ShortKey) (c : Option String) (now : Int) (hs : SvcInv s) :
    SvcInv (s.removeInstance key c now).1 := by
  rw [removeInstance_fst]
  split
  · next old h => exact svcInv_dropInst s key old now hs ((removeInstance_spec s key c now).1 old h).1
  · exact hs

/-! ### the health flag -/

theorem get?_markUnhealthy (s : Svc) (key k : ShortKey) :
    AL.get? (s.markUnhealthy key).insts k =
      if key = k then (AL.get? s.insts key).map ({ · with healthy := false }) else AL.get? s.insts k := by
  unfold Svc.markUnhealthy
  cases hg : AL.get? s.insts key with
  | none => exact AL.get?_ite_of_eq hg k
  | some i =>
    simp only [Option.map_some]
    split
    · exact AL.get?_set _ _ _ _
    · exact AL.get?_ite_of_eq (hg.trans (by cases i; simp_all)) k

theorem markUnhealthy_other (s : Svc) (key k : ShortKey) (h : key ≠ k) :
    AL.get? (s.markUnhealthy key).insts k = AL.get? s.insts k := by
  rw [get?_markUnhealthy, if_neg h]

theorem get?_probeValid (s : Svc) (key k : ShortKey) :
    AL.get? (s.probeValid key).insts k =
      if key = k then (AL.get? s.insts key).map fun i => if !i.healthy && !i.ephemeral then { i with healthy := true } else i
      else AL.get? s.insts k := by
  unfold Svc.probeValid
  cases hg : AL.get? s.insts key with
  | none => exact AL.get?_ite_of_eq hg k
  | some i =>
    simp only [Option.map_some]
    split
    · exact AL.get?_set _ _ _ _
    · exact AL.get?_ite_of_eq hg k

/-- either result of a probe maps the instance stored under `key` by a function that changes `healthy` at most -/
theorem probe_changes_healthy_only (s : Svc) (key k : ShortKey) (ok : Bool) (i : Inst) (hg : AL.get? s.insts k = some i) :
    ∃ b, AL.get? (if ok then s.probeValid key else s.markUnhealthy key).insts k = some { i with healthy := b } := by
  cases ok
  · rw [if_neg Bool.false_ne_true, get?_markUnhealthy]
    split
    · next e => subst e; rw [hg]; exact ⟨false, rfl⟩
    · exact ⟨i.healthy, hg⟩
  · rw [if_pos rfl, get?_probeValid]
    split
    · next e =>
      subst e; rw [hg, Option.map_some]
      split
      · exact ⟨true, rfl⟩
      · exact ⟨i.healthy, rfl⟩
    · exact ⟨i.healthy, hg⟩

/-- `hb`: the flag really flips, which is why the healthy counter moves by one (`hh`) -/
theorem SvcInv.setHealthy {s s' : Svc} (hs : SvcInv s) {key : ShortKey} {i : Inst} (hg : AL.get? s.insts key = some i)
    (b : Bool) (hb : i.healthy = !b) (hi : s'.insts = AL.set s.insts key { i with healthy := b })
    (hz : s'.instSize = s.instSize) (hh : s'.healthySize = if b then s.healthySize + 1 else s.healthySize - 1)
    (hp : s'.perpetual = s.perpetual) : SvcInv s' := by
  have hk : ({ i with healthy := b } : Inst).short = key := hs.keyed key i hg
  rw [← hk] at hi hg
  apply hs.put _ hi
  · rw [hz, hg]; simp
  · rw [hh, hg, Option.any_some, hb]; cases b <;> simp
  · rw [hp, hg]; exact (if_pos rfl).symm

theorem svcInv_markUnhealthy (s : Svc) (key : ShortKey) (hs : SvcInv s) : SvcInv (s.markUnhealthy key) := by
  unfold Svc.markUnhealthy
  cases hg : AL.get? s.insts key with
  | none => exact hs
  | some i =>
    simp only
    split
    · next hh => exact hs.setHealthy hg false hh rfl rfl rfl rfl
    · exact hs.congr rfl rfl rfl rfl

theorem svcInv_probeValid (s : Svc) (key : ShortKey) (hs : SvcInv s) : SvcInv (s.probeValid key) := by
  unfold Svc.probeValid
  cases hg : AL.get? s.insts key with
  | none => exact hs
  | some i =>
    simp only
    split
    · next hc =>
      exact hs.setHealthy hg true (by cases h : i.healthy <;> simp_all) rfl rfl rfl rfl
    · exact hs

/-! ### time check -/

theorem skipTimeout_eq (s : Svc) (key : ShortKey) (limit : Int) :
    s.skipTimeout key limit = (AL.get? s.insts key).any fun i => !i.enableTimeout || decide (i.lastModified > limit) := by
  unfold Svc.skipTimeout; cases AL.get? s.insts key <;> rfl

/-- the loop both passes of `time_check` run: `g` at every listed address that is still due when its turn comes -/
def passStep (g : Svc → ShortKey → Svc) (limit : Int) (acc : Svc × List ShortKey) (key : ShortKey) : Svc × List ShortKey :=
  if acc.1.skipTimeout key limit then acc else (g acc.1 key, acc.2 ++ [key])

theorem expireStep_eq (now limit : Int) :
    Svc.expireStep now limit = passStep (fun s key => (s.removeInstance key none now).1) limit := rfl

theorem unhealthyStep_eq (limit : Int) : Svc.unhealthyStep limit = passStep Svc.markUnhealthy limit := rfl

theorem passFold_keeps {g : Svc → ShortKey → Svc} {limit : Int} (P : Svc → Prop) (hg : ∀ s key, P s → P (g s key))
    (keys : List ShortKey) (acc : Svc × List ShortKey) (h : P acc.1) : P (keys.foldl (passStep g limit) acc).1 :=
  List.foldlRecOn (motive := fun acc : Svc × List ShortKey => P acc.1) keys _ h fun acc h key _ => by
    unfold passStep; split
    · exact h
    · exact hg _ _ h

theorem get?_passFold {g : Svc → ShortKey → Svc} {F : Option Inst → Option Inst} (limit : Int)
    (hg : ∀ s key k, AL.get? (g s key).insts k = if key = k then F (AL.get? s.insts key) else AL.get? s.insts k)
    (hF : ∀ o, F (F o) = F o) (k : ShortKey) (keys : List ShortKey) (acc : Svc × List ShortKey) :
    AL.get? (keys.foldl (passStep g limit) acc).1.insts k =
      if k ∈ keys ∧ acc.1.skipTimeout k limit = false then F (AL.get? acc.1.insts k) else AL.get? acc.1.insts k := by
  -- a time-out set can hold an address several times (every heartbeat queues it again), hence `hF`; the skip test and
  -- `F` together are one idempotent update of the visited address, which is what `foldl_at` folds
  refine (Fold.foldl_at (look := fun acc k => AL.get? acc.1.insts k)
    (F := fun o => if o.any (fun i => !i.enableTimeout || decide (i.lastModified > limit)) then o else F o)
    (fun acc key k => ?_) (fun o => ?_) keys acc k).trans ?_
  · unfold passStep
    rw [skipTimeout_eq]
    split
    · exact AL.get?_ite_of_eq rfl k
    · exact hg _ _ _
  · split
    · rfl
    · split
      · rfl
      · exact hF o
  · rw [skipTimeout_eq]
    cases (AL.get? acc.1.insts k).any fun i => !i.enableTimeout || decide (i.lastModified > limit) <;> simp

theorem timeCheck_fst (s : Svc) (ht ot now : Int) :
    (s.timeCheck ht ot now).1 = ((s.expirePass ot now).1.unhealthyPass ht).1 := by
  -- `rfl` is slow: the elaborator compares the two passes before it projects
  simp only [Svc.timeCheck]

theorem get?_expirePass (s : Svc) (ot now : Int) (k : ShortKey) :
    AL.get? (s.expirePass ot now).1.insts k =
      if k ∈ (toSplit s.unhealthyTO ot).1 ∧ s.skipTimeout k ot = false then none else AL.get? s.insts k := by
  unfold Svc.expirePass; rw [expireStep_eq]
  exact get?_passFold (F := fun _ => none) ot
    (fun s key k => (get?_removeInstance s key k none now).trans (by cases AL.get? s.insts key <;> rfl)) (fun _ => rfl) k _ _

theorem get?_unhealthyPass (s : Svc) (ht : Int) (k : ShortKey) :
    AL.get? (s.unhealthyPass ht).1.insts k =
      if k ∈ (toSplit s.healthyTO ht).1 ∧ s.skipTimeout k ht = false
      then (AL.get? s.insts k).map ({ · with healthy := false }) else AL.get? s.insts k := by
  unfold Svc.unhealthyPass; rw [unhealthyStep_eq]
  exact get?_passFold ht get?_markUnhealthy (fun o => by cases o <;> rfl) k _ _

theorem healthyTO_expirePass (s : Svc) (ot now : Int) : (s.expirePass ot now).1.healthyTO = s.healthyTO := by
  unfold Svc.expirePass; rw [expireStep_eq]
  exact passFold_keeps (fun s' => s'.healthyTO = s.healthyTO)
    (fun s' key h => by rw [removeInstance_fst]; split <;> exact h) _ _ rfl

/-- Both conditions read `s`, although the second pass runs on what the first has left: the first pass leaves `healthyTO`
alone, and an instance that it does not remove it does not change. -/
theorem get?_timeCheck (s : Svc) (ht ot now : Int) (k : ShortKey) :
    AL.get? (s.timeCheck ht ot now).1.insts k =
      if k ∈ (toSplit s.unhealthyTO ot).1 ∧ s.skipTimeout k ot = false then none
      else if k ∈ (toSplit s.healthyTO ht).1 ∧ s.skipTimeout k ht = false
      then (AL.get? s.insts k).map ({ · with healthy := false }) else AL.get? s.insts k := by
  rw [timeCheck_fst, get?_unhealthyPass, healthyTO_expirePass]
  have h1 := get?_expirePass s ot now k
  split at h1
  · next hc => rw [if_pos hc, h1]; simp
  · next hc => rw [if_neg hc, skipTimeout_eq, h1, ← skipTimeout_eq]

theorem timeCheck_keeps (s : Svc) (ht ot now : Int) (key : ShortKey) (i : Inst)
    (hg : AL.get? s.insts key = some i) (hn : i.enableTimeout = false) :
    AL.get? (s.timeCheck ht ot now).1.insts key = some i := by
  have hsk : ∀ limit, s.skipTimeout key limit = true := fun limit => by rw [skipTimeout_eq, hg, Option.any_some, hn]; rfl
  rw [get?_timeCheck, hsk, hsk]
  simpa using hg

theorem svcInv_timeCheck (s : Svc) (ht ot now : Int) (hs : SvcInv s) : SvcInv (s.timeCheck ht ot now).1 := by
  have h1 : SvcInv (s.expirePass ot now).1 := by
    unfold Svc.expirePass; rw [expireStep_eq]
    exact passFold_keeps SvcInv (fun s key => svcInv_removeInstance s key none now) _ _ (hs.congr rfl rfl rfl rfl)
  rw [timeCheck_fst]
  unfold Svc.unhealthyPass; rw [unhealthyStep_eq]
  exact passFold_keeps SvcInv svcInv_markUnhealthy _ _ (h1.congr rfl rfl rfl rfl)

theorem svcInv_refreshRange (s : Svc) (hs : SvcInv s) : SvcInv s.refreshRange := hs.congr rfl rfl rfl rfl

end RNacos.Naming
