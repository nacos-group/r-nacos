import RNacos.Lemmas.BufReader
/-
`scanInner` / `scanCount` (the loop of `move_to_index_by_count`) against the whole-stream specification: first that the
scan over any chunking does what the same loop does on the list of records (`scanSpec`), then what that is in closed
form.
-/
namespace RNacos.BufReader
open RNacos.Spec.Stream

/-- the loop of `move_to_index_by_count` run on the records themselves: position and count -/
def scanSpec (count : Nat) : List (List Nat) → Nat → Nat → Nat × Nat
  | [], cur, c => (cur, c)
  | b :: bs, cur, c =>
    if c + 1 == count then (cur + (frame b).length, c + 1)
    else scanSpec count bs (cur + (frame b).length) (c + 1)

/-- The inner loop either meets the limit, and so does the loop on the records, or leaves an aligned reader from which
the loop on the records still to come gives the same result. -/
theorem scanInner_spec {rem tail : List Nat} (count : Nat) : ∀ (fuel : Nat) (r : BufReader) (bs : List (List Nat))
    (cur c : Nat), Reads r rem bs tail → (window r).length < fuel →
    ∃ cur' c' r',
      (scanInner fuel r cur c count = (cur', c', r', true, false) ∧ scanSpec count bs cur c = (cur', c')) ∨
      (scanInner fuel r cur c count = (cur', c', r', false, false) ∧
        ∃ bs2, Aligned r' rem bs2 tail ∧ scanSpec count bs cur c = scanSpec count bs2 cur' c') := by
  intro fuel
  induction fuel with
  | zero => exact fun _ _ _ _ _ hf => absurd hf (Nat.not_lt_zero _)
  | succ f ih =>
    intro r bs cur c h hf
    rcases h.next with ⟨b, bs', r1, rfl, hn, h1, hl⟩ | ⟨r', hn, h'⟩
    · simp only [scanInner, hn, scanSpec]
      split
      · exact ⟨_, _, r1, .inl ⟨rfl, rfl⟩⟩
      · exact ih r1 bs' _ _ h1 (Nat.lt_of_lt_of_le hl (Nat.le_of_lt_succ hf))
    · exact ⟨cur, c, r', .inr ⟨by simp [scanInner, hn], bs, h', rfl⟩⟩

theorem scanCount_spec (count : Nat) : ∀ (chunks : List (List Nat)) (r : BufReader) (bs : List (List Nat))
    (tail : List Nat) (cur c : Nat), Aligned r chunks.flatten bs tail →
    scanCount r chunks cur c count = ((scanSpec count bs cur c).1, (scanSpec count bs cur c).2, false) := by
  intro chunks
  induction chunks with
  | nil => intro r bs tail cur c h; rw [h.nil]; rfl
  | cons ch rest ih =>
    intro r bs tail cur c h
    have h1 : Reads (appendNextBuf r ch) rest.flatten bs tail := h.toReads.append
    obtain ⟨cur', c', r2, ⟨hsc, hs⟩ | ⟨hsc, bs2, h2, hs⟩⟩ := scanInner_spec count _ _ _ cur c h1 h1.wf.fuel
    · simp [scanCount, hsc, hs]
    · simp only [scanCount, hsc, hs, Bool.false_eq_true, if_false]
      split
      next hemp =>
        -- the end marker is at the head of the window: no record can follow
        rw [h2.nil_of_isEmpty hemp]; rfl
      · exact ih r2 bs2 tail _ _ h2

/-- How many of `n` records the scan loop takes when its limit is `count` and `c` records were counted before. The loop
raises its counter first and compares then (`c += 1; if c == count`), so a limit `≤ c` is never met and all `n` are
taken; `count = 0` is such a limit for every `c`. (In r-nacos `move_to_index_by_count` returns before the loop when
`count = 0`.) -/
def scanTaken (count c n : Nat) : Nat := if c < count then min (count - c) n else n

theorem scanTaken_of_lt {count c n : Nat} (h : c < count) : scanTaken count c n = min (count - c) n := if_pos h

theorem scanTaken_of_le {count c n : Nat} (h : count ≤ c) : scanTaken count c n = n := if_neg (Nat.not_lt.2 h)

theorem scanTaken_nil (count c : Nat) : scanTaken count c 0 = 0 := by
  unfold scanTaken; split <;> simp

theorem scanTaken_hit {count c : Nat} (n : Nat) (h : c + 1 = count) : scanTaken count c (n + 1) = 1 := by
  subst h
  rw [scanTaken_of_lt (Nat.lt_add_one c), Nat.add_sub_cancel_left, Nat.add_comm n,
    Nat.min_eq_left (Nat.le_add_right 1 n)]

theorem scanTaken_step {count c : Nat} (n : Nat) (h : c + 1 ≠ count) :
    scanTaken count c (n + 1) = scanTaken count (c + 1) n + 1 := by
  by_cases hc : c < count
  · rw [scanTaken_of_lt hc, scanTaken_of_lt (c := c + 1) (Nat.lt_of_le_of_ne hc h), ← Nat.add_min_add_right,
      Nat.sub_add_eq, Nat.sub_add_cancel (Nat.sub_pos_of_lt hc)]
  · rw [scanTaken_of_le (Nat.le_of_not_lt hc), scanTaken_of_le (Nat.le_succ_of_le (Nat.le_of_not_lt hc))]

theorem scanSpec_eq (count : Nat) : ∀ (bs : List (List Nat)) (cur c : Nat),
    scanSpec count bs cur c =
      (cur + (frames (bs.take (scanTaken count c bs.length))).length, c + scanTaken count c bs.length) := by
  intro bs
  induction bs with
  | nil =>
    intro cur c
    rw [List.take_nil, List.length_nil, scanTaken_nil]
    rfl
  | cons b bs ih =>
    intro cur c
    rw [scanSpec, List.length_cons]
    split
    next heq => rw [scanTaken_hit _ (beq_iff_eq.1 heq)]; simp [frames]
    next hne =>
      rw [ih, scanTaken_step _ fun e => hne (beq_iff_eq.2 e), List.take_succ_cons, frames_cons, List.length_append,
        Nat.add_assoc, Nat.add_assoc c, Nat.add_comm 1]

/-- **the scan loop of `move_to_index_by_count` is correct under any chunking of a well-formed stream**: with `c`
records counted so far and the limit still ahead it counts `min (count - c) |records|` more, all of them with the limit
behind it (`count = 0` is such a limit), and advances by exactly their bytes. -/
theorem scanCount_correct (chunks : List (List Nat)) (r : BufReader) (bs : List (List Nat))
    (tail : List Nat) (cur c count : Nat) (h : Aligned r chunks.flatten bs tail) :
    scanCount r chunks cur c count =
      (cur + (frames (bs.take (scanTaken count c bs.length))).length, c + scanTaken count c bs.length, false) := by
  rw [scanCount_spec count chunks r bs tail cur c h, scanSpec_eq]

end RNacos.BufReader
