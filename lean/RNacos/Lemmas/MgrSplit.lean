import RNacos.Lemmas.MgrWrite
import RNacos.Lemmas.MgrStrip
/-
`RaftLogManager::split_off` and `save_new_snapshot_pointer` refine the list specification's `savePointer`:
everything up to the pointer's index disappears, the pointer takes its place, the rest is untouched.
-/
namespace RNacos.LogManager
open RNacos.LogStore (Ent Store)

theorem splitLoop_cons (k : Nat) (f : File) (fs : List File) :
    splitLoop k (f :: fs) =
      (if !(belowRangeEnd k f) then ((splitLoop k fs).1 + 1, f :: (splitLoop k fs).2)
       else if k > f.splitOff then (0, { f with splitOff := k } :: fs)
       else ((splitLoop k fs).1, f :: (splitLoop k fs).2)) := rfl

theorem splitLoop_below (k : Nat) (ps fs : List File) (h : ∀ p ∈ ps, belowRangeEnd k p = false) :
    splitLoop k (ps ++ fs) = ((splitLoop k fs).1 + ps.length, ps ++ (splitLoop k fs).2) := by
  induction ps with
  | nil => rfl
  | cons p ps ih => simp [splitLoop_cons, ih fun q hq => h q (by simp [hq]), h p (by simp), Nat.add_assoc]

theorem splitLoop_noop (k : Nat) (gs : List File) (h : ∀ g ∈ gs, belowRangeEnd k g = true ∧ k ≤ g.splitOff) :
    splitLoop k gs = (0, gs) := by
  induction gs with
  | nil => rfl
  | cons g gs ih => simp [splitLoop_cons, ih fun x hx => h x (by simp [hx]), h g (by simp), Nat.not_lt.2 (h g (by simp)).2]

theorem splitOffFs_cut (k : Nat) (pre : List File) (c : File) (post : List File) (h : Cut k pre c post) :
    splitOffFs k (pre ++ c :: post) = { c with splitOff := k } :: post := by
  have hcut : splitLoop k (c :: post) = (0, { c with splitOff := k } :: post) := by
    by_cases hks : k > c.splitOff
    · simp [splitLoop_cons, h.below, hks]
    · obtain rfl : c.splitOff = k := by have := h.split_le; omega
      simp [splitLoop_cons, h.below,
        splitLoop_noop _ post fun g hg => ⟨h.post_below g hg, Nat.le_of_lt (h.post_lt g hg)⟩]
  simp [splitOffFs, splitLoop_below k pre _ h.pre_below, hcut]

/-- **`split_off(k)`**, for a split point inside the log and at or above the first visible index: the entries below
`k` disappear, nothing else changes, the first remaining file is split exactly at `k` -/
theorem splitOff_spec (k : Nat) (fs : List File) (ents : List Ent) (nx : Option Nat) (h : Sim fs ents nx) (hne : fs ≠ [])
    (hend : ∀ l, fs.getLast? = some l → k ≤ endIdx l)
    (hlo : ∀ f0, fs.head? = some f0 → f0.splitOff ≤ k) :
    ∃ c' post, splitOffFs k fs = c' :: post ∧ c'.splitOff = k ∧
      Sim (c' :: post) (ents.filter fun e => decide (k ≤ e.index)) nx := by
  obtain ⟨hc, rfl, rfl⟩ := h
  obtain ⟨pre, c, post, rfl, hcut⟩ := chain_cut k fs hc hne hlo
  have hcp := ((chain_append pre c post).1 hc).2
  have hci := (chain_mem pre c post hc).1
  have hck := hcut.split_le
  have hke : k ≤ endIdx c := by
    cases post with
    | nil => exact hend c (by simp)
    | cons g r => exact Nat.le_of_lt (hcut.lt_end (by simp))
  rw [splitOffFs_cut k pre c post hcut, (cut_filter k pre c post hcut).2]
  have hci' : FileInv { c with splitOff := k } := ⟨hci.ok, by have := hci.lo; simp; omega, hke⟩
  refine ⟨_, post, rfl, rfl, ?_, ?_, ?_⟩
  · cases post with
    | nil => exact ⟨hci', hcp.2⟩
    | cons g r => exact ⟨hcp.1, hci', hcp.2.2.1, hcp.2.2.2⟩
  · rw [absEnts_cons]
    congr 1
    simp only [visible, List.filter_filter]
    exact List.filter_congr fun e _ => by simp; omega
  · rw [absNext_append pre _ (List.cons_ne_nil c post)]
    cases post <;> rfl

/-- **`save_new_snapshot_pointer` refines `savePointer`** for a pointer inside the log (compaction: the pointer is at
or below the last applied entry).  Snapshot installation removes every file first and so comes here with no file (the
model's `install` has that case written out), where the two hypotheses say nothing -/
theorem savePointer_spec (full : File → Bool) (hfresh : ∀ f : File, f.recs = [] → full f = false)
    (fs : List File) (s : Store) (h : Sim fs s.ents s.next) (i t : Nat)
    (hend : ∀ l, fs.getLast? = some l → i + 1 ≤ endIdx l)
    (hlo : ∀ f0, fs.head? = some f0 → f0.splitOff ≤ i + 1) :
    Sim (savePointerFs full fs i t) (LogStore.savePointer s i t).ents (LogStore.savePointer s i t).next := by
  cases hn : s.next with
  | none =>
    -- no log file yet: the pointer is written like a first record, and that is what the specification says it shows
    obtain ⟨rfl, -⟩ := sim_none.1 (hn ▸ h)
    simp only [LogStore.savePointer, hn]
    exact writeOne_nil_ptr full hfresh i t
  | some n =>
    obtain ⟨ys, l, rfl, -⟩ := sim_some (hn ▸ h)
    obtain ⟨c', post, hres, hsp, hch, habs, hnx⟩ := splitOff_spec (i + 1) _ _ _ h (by simp) hend hlo
    simp only [LogStore.savePointer, hn, savePointerFs, hres]
    refine ⟨⟨⟨rfl, rfl⟩, ⟨?_, Nat.le_refl _, by simp [endIdx]⟩, by simp [endIdx, hsp], hch⟩, ?_, ?_⟩
    · intro j hj
      simp at hj; subst hj; simp [ptrEnt]
    · rw [absEnts_cons, habs]
      simp [visible, ptrEnt, Nat.lt_iff_add_one_le]
    · rw [← hn, ← hnx]
      exact absNext_append [_] _ (List.cons_ne_nil _ _)

end RNacos.LogManager
