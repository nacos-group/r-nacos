import RNacos.Model.Varint
/-
The varint model: what the writer produces (`Enc`), what the reader and `vlen` make of it, and the size function. The
`vwriteF_*` lemmas carry the inductions on the fuel and hold whatever the value; the `vwrite_*` forms are their instances
at fuel 9, for the other files. 64 bits come in with `vwrite_enc`.
-/
namespace RNacos.Varint

/-- only the value 0 is written with a first byte 0, the byte the stream readers take for the end of the records -/
theorem vwriteF_cons (f v : Nat) : ∃ a t, vwriteF f v = a :: t ∧ (0 < v → a ≠ 0) := by
  cases f with
  | zero => exact ⟨v, [], rfl, Nat.ne_of_gt⟩
  | succ f =>
    rw [vwriteF]; split
    · exact ⟨_, _, rfl, fun _ => Nat.succ_ne_zero _⟩
    · exact ⟨v, [], rfl, Nat.ne_of_gt⟩

theorem vwriteF_ne_nil (f v : Nat) : vwriteF f v ≠ [] := by
  obtain ⟨a, t, h, _⟩ := vwriteF_cons f v; simp [h]

theorem vwriteF_head_ne_zero (f v : Nat) (hv : 0 < v) : (vwriteF f v).head? ≠ some 0 := by
  obtain ⟨a, t, h, ha⟩ := vwriteF_cons f v; simpa [h] using ha hv

theorem vwriteF_length_le (f v : Nat) : (vwriteF f v).length ≤ f + 1 := by
  induction f generalizing v with
  | zero => exact Nat.le_refl 1
  | succ n ih =>
    rw [vwriteF]; split
    · exact Nat.succ_le_succ (ih _)
    · exact Nat.le_add_left 1 _

theorem vwrite_cons (v : Nat) : ∃ a t, vwrite v = a :: t ∧ (0 < v → a ≠ 0) := vwriteF_cons 9 v

theorem vwrite_append_ne_nil (v : Nat) (l : List Nat) : vwrite v ++ l ≠ [] :=
  List.append_ne_nil_of_left_ne_nil (vwriteF_ne_nil 9 v) l

theorem vwrite_length_pos (v : Nat) : 0 < (vwrite v).length :=
  List.length_pos_iff.2 (vwriteF_ne_nil 9 v)

theorem vwrite_length_le (v : Nat) : (vwrite v).length ≤ 10 := vwriteF_length_le 9 v

/-- `bs` is the varint of `v`: bytes `≥ 128` carrying seven bits each, least significant first, closed by a byte
`< 128` carrying the rest. The reader, `vlen` and the prefix lemma are proved from this shape alone; fuel and
powers of 128 appear only in `vwriteF_enc`. -/
inductive Enc : Nat → List Nat → Prop
  | last {v : Nat} : v < 128 → Enc v [v]
  | cont {v : Nat} {bs : List Nat} : 128 ≤ v → Enc (v / 128) bs → Enc v ((v % 128 + 128) :: bs)

theorem vwriteF_enc (n : Nat) : ∀ v, v < 128 ^ (n + 1) → Enc v (vwriteF n v) := by
  induction n with
  | zero => intro v hv; exact .last hv
  | succ n ih =>
    intro v hv
    rw [vwriteF]
    split
    next h => exact .cont h (ih _ (Nat.div_lt_of_lt_mul (by rw [Nat.pow_succ, Nat.mul_comm] at hv; exact hv)))
    next h => exact .last (Nat.lt_of_not_le h)

/-- a continuation byte is not taken for the last -/
theorem contByte_not_lt (v : Nat) : ¬ v % 128 + 128 < 128 := Nat.not_lt.2 (Nat.le_add_left _ _)

namespace Enc
variable {v : Nat} {bs : List Nat}

theorem vreadGo_append (h : Enc v bs) (m : Nat) (rest : List Nat) (hm : bs.length ≤ m) :
    vreadGo m (bs ++ rest) = .ok v := by
  obtain ⟨k, rfl⟩ := Nat.exists_eq_add_of_le hm
  clear hm
  induction h with
  | last hv => rw [List.length_singleton, Nat.add_comm, List.singleton_append, vreadGo, if_pos hv]
  | @cont v bs hv _ ih =>
    rw [List.length_cons, Nat.add_right_comm, List.cons_append, vreadGo, if_neg (contByte_not_lt v), ih]
    exact congrArg Except.ok (by rw [Nat.add_mod_right, Nat.mod_mod, Nat.mod_add_div])

theorem vlen_append (h : Enc v bs) (rest : List Nat) : vlen (bs ++ rest) = some bs.length := by
  induction h with
  | last hv => exact if_pos hv
  | @cont v bs hv _ ih => rw [List.cons_append, vlen, if_neg (contByte_not_lt v), ih]; rfl

theorem vlen_prefix (h : Enc v bs) : ∀ p : List Nat, p <+: bs → p.length < bs.length → vlen p = none := by
  induction h with
  | last hv =>
    intro p _ hl
    cases p with
    | nil => rfl
    | cons a t => simp at hl
  | @cont v bs hv _ ih =>
    intro p hp hl
    cases p with
    | nil => rfl
    | cons a t =>
      obtain ⟨rfl, ht⟩ := List.cons_prefix_cons.1 hp
      rw [vlen, if_neg (contByte_not_lt v), ih t ht (Nat.lt_of_succ_lt_succ hl)]; rfl

end Enc

theorem pow64_lt : (2 : Nat) ^ 64 < 128 ^ 10 := by decide

theorem vwrite_enc {v : Nat} (hv : v < 2 ^ 64) : Enc v (vwrite v) :=
  vwriteF_enc 9 v (Nat.lt_trans hv pow64_lt)

theorem vreadGo_vwrite (v : Nat) (rest : List Nat) (hv : v < 2 ^ 64) :
    vreadGo 10 (vwrite v ++ rest) = .ok v :=
  (vwrite_enc hv).vreadGo_append 10 rest (vwrite_length_le v)

theorem vlen_vwrite (v : Nat) (rest : List Nat) (hv : v < 2 ^ 64) :
    vlen (vwrite v ++ rest) = some (vwrite v).length :=
  (vwrite_enc hv).vlen_append rest

theorem vlen_vwrite_prefix (v : Nat) (p : List Nat) (hv : v < 2 ^ 64) (hp : p <+: vwrite v)
    (hl : p.length < (vwrite v).length) : vlen p = none :=
  (vwrite_enc hv).vlen_prefix p hp hl

theorem vread_at (a rest : List Nat) (v : Nat) (hv : v < 2 ^ 64) :
    vread (a ++ (vwrite v ++ rest)) a.length = .ok v := by
  rw [vread, List.drop_left, vreadGo_vwrite v rest hv]
  simp only [Nat.mod_eq_of_lt hv]

theorem vread_vwrite (v : Nat) (rest : List Nat) (hv : v < 2 ^ 64) : vread (vwrite v ++ rest) 0 = .ok v :=
  vread_at [] rest v hv

/-- `[128, 128², …, 128^f]`, built the way `vwriteF` uses up its value: one factor 128 per step -/
def pow128s : Nat → List Nat
  | 0 => []
  | f + 1 => 128 :: (pow128s f).map (· * 128)

theorem sizeofGo_map (bs : List Nat) (v n : Nat) :
    sizeofGo (bs.map (· * 128)) v n = sizeofGo bs (v / 128) n := by
  induction bs generalizing n with
  | nil => rfl
  | cons b bs ih => simp only [List.map_cons, sizeofGo, ih, Nat.div_lt_iff_lt_mul (show 0 < 128 by omega)]

/-- The size function over the table `pow128s f` and the writer with fuel `f` take the same steps. No bound on `v` is
needed: where the table ends, so does the fuel. -/
theorem sizeofGo_pow128s (f : Nat) : ∀ v n, sizeofGo (pow128s f) v n + 1 = n + (vwriteF f v).length := by
  induction f with
  | zero => intro v n; rfl
  | succ f ih =>
    intro v n
    rw [pow128s, sizeofGo, sizeofGo_map, vwriteF]
    by_cases h : v < 128
    · rw [if_pos h, if_neg (by omega)]; rfl
    · rw [if_neg h, if_pos (by omega), ih, List.length_cons]; omega

/-- `write_varint64(v).len() == inner_sizeof_varint(v)` -/
theorem vwrite_length_eq_vsizeof (v : Nat) : (vwrite v).length = vsizeof v := by
  -- `pow128s 9` evaluates to `sizeofBounds`
  have h : sizeofGo sizeofBounds v 1 + 1 = 1 + (vwriteF 9 v).length := sizeofGo_pow128s 9 v 1
  rw [vwrite, vsizeof]; omega

end RNacos.Varint
