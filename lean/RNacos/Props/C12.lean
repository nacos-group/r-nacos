import RNacos.Lemmas.Naming
/-!
# C12 — registry queries return exactly live registrations; disconnect removes own only

Model: `RNacos/Model/Naming.lean`.
-/
namespace RNacos.Props.C12
open RNacos RNacos.Naming

/-! ## instance queries -/

/-- the protection threshold is reached: healthy/total ≤ threshold (both sides ×1000·total) -/
def Protected (all : List Inst) (protect : Nat) : Prop :=
  all.length > 0 ∧ (all.filter (·.healthy)).length * 1000 ≤ protect * all.length

theorem mem_filterList {all : List Inst} {p : Nat} {ho : Bool} {r : Inst} :
    r ∈ filterList all p ho ↔
      (Protected all p ∧ ∃ i ∈ all, { i with healthy := true } = r) ∨
      (¬ Protected all p ∧ r ∈ all ∧ (ho = true → r.healthy = true)) := by
  unfold filterList
  by_cases hp : Protected all p
  · rw [if_pos (by simpa [Protected] using hp)]; simp [hp]
  · rw [if_neg (by simpa [Protected] using hp)]; cases ho <;> simp [hp]

theorem mem_enabled {s : Svc} {i : Inst} :
    i ∈ (s.insts.map (·.2)).filter (·.enabled) ↔ (∃ key, (key, i) ∈ s.insts) ∧ i.enabled = true := by
  simp

/-- **no deregistered or foreign instance is included**: whatever an instance query returns is an enabled
instance currently stored for that service (its health flag possibly raised by the protection rule) -/
theorem query_only_registered (n : Naming) (k : SKey) (ho : Bool) (r : Inst) (hr : r ∈ n.queryList k ho) :
    ∃ s key i, AL.get? n.services k = some s ∧ (key, i) ∈ s.insts ∧ i.enabled = true ∧
      (r = i ∨ r = { i with healthy := true }) := by
  unfold Naming.queryList at hr
  cases hs : AL.get? n.services k with
  | none => rw [hs] at hr; cases hr
  | some s =>
    rw [hs] at hr
    rcases mem_filterList.1 hr with ⟨_, i, hi, rfl⟩ | ⟨_, hi, _⟩
    · obtain ⟨⟨key, hk⟩, he⟩ := mem_enabled.1 hi
      exact ⟨s, key, i, rfl, hk, he, Or.inr rfl⟩
    · obtain ⟨⟨key, hk⟩, he⟩ := mem_enabled.1 hi
      exact ⟨s, key, r, rfl, hk, he, Or.inl rfl⟩

/-- **no registered address is missing**: every stored enabled instance is returned when all instances are
asked for; when only healthy ones are asked for, every healthy one is returned, and every one at all
when the protection threshold is reached -/
theorem query_complete (n : Naming) (k : SKey) (ho : Bool) (s : Svc) (key : ShortKey) (i : Inst)
    (hs : AL.get? n.services k = some s) (hi : (key, i) ∈ s.insts) (hen : i.enabled = true)
    (hh : ho = false ∨ i.healthy = true ∨ Protected ((s.insts.map (·.2)).filter (·.enabled)) s.protect) :
    i ∈ n.queryList k ho ∨ { i with healthy := true } ∈ n.queryList k ho := by
  unfold Naming.queryList
  rw [hs]
  have hall := mem_enabled.2 ⟨⟨key, hi⟩, hen⟩
  by_cases hp : Protected ((s.insts.map (·.2)).filter (·.enabled)) s.protect
  · exact Or.inr (mem_filterList.2 (Or.inl ⟨hp, i, hall, rfl⟩))
  · refine Or.inl (mem_filterList.2 (Or.inr ⟨hp, hall, fun h => ?_⟩))
    rcases hh with h' | h' | h'
    · rw [h] at h'; cases h'
    · exact h'
    · exact absurd h' hp

/-- healthy-only means healthy-only, unless the protection threshold is reached -/
theorem healthy_only_unless_protected (n : Naming) (k : SKey) (s : Svc) (hs : AL.get? n.services k = some s)
    (hp : ¬ Protected ((s.insts.map (·.2)).filter (·.enabled)) s.protect) (r : Inst)
    (hr : r ∈ n.queryList k true) : r.healthy = true := by
  unfold Naming.queryList at hr
  rw [hs] at hr
  rcases mem_filterList.1 hr with ⟨h, _⟩ | ⟨_, _, h⟩
  · exact absurd h hp
  · exact h rfl


/-! ## registration -/

/-- **a newly registered instance carries the address, ephemeral flag, enabled flag and weight it was
registered with** -/
theorem new_carries_fields (s : Svc) (inst : Inst) (tag : Option Tag) (fs : Bool)
    (hnew : AL.get? s.insts inst.short = none) :
    AL.get? (s.updateInstance inst tag fs).1.insts inst.short = some inst := by
  rw [get?_updateInstance, if_pos rfl, merge_of_none hnew]

/-- a re-registration never changes the address under which the instance is stored, and an ephemeral
HTTP re-registration of a gRPC-owned address keeps the gRPC owner -/
theorem reregister_keeps_grpc_owner (inst old : Inst) (he : inst.ephemeral = true) (hg : inst.fromGrpc = false)
    (ho : old.fromGrpc = true) :
    (keepOwner inst old).clientId = old.clientId ∧ (keepOwner inst old).fromGrpc = true := by
  unfold keepOwner; simp [he, hg, ho]

/-! ## deregistration and disconnect -/

/-- **a deregistration with a different, non-empty client id does not remove an ephemeral instance** -/
theorem deregister_guard (s : Svc) (key : ShortKey) (old : Inst) (c : String) (now : Int)
    (hg : AL.get? s.insts key = some old) (he : old.ephemeral = true) (hc : c ≠ "") (hne : old.clientId ≠ c) :
    s.removeInstance key (some c) now = (s, none) := by
  have : s.refuses key (some c) = true := by rw [refuses_eq, hg]; simp [Inst.guarded, he, hc, hne]
  simp [Svc.removeInstance, this]

/-- a matching (or empty) client id removes it -/
theorem deregister_own (s : Svc) (key : ShortKey) (old : Inst) (c : String) (now : Int)
    (hg : AL.get? s.insts key = some old) (hc : c = "" ∨ old.clientId = c) :
    (s.removeInstance key (some c) now).2 = some old ∧
    AL.get? (s.removeInstance key (some c) now).1.insts key = none := by
  have hgd : old.guarded (some c) = false := by rcases hc with rfl | h <;> simp [Inst.guarded, *]
  rw [removeInstance_snd, get?_removeInstance, if_pos rfl, hg, Option.filter_some, Option.filter_some, hgd]
  exact ⟨rfl, rfl⟩

theorem removeInstance_none_stays (s : Svc) (key k2 : ShortKey) (c : Option String) (now : Int)
    (h : AL.get? s.insts k2 = none) : AL.get? (s.removeInstance key c now).1.insts k2 = none := by
  rw [get?_removeInstance]; split
  · next e => rw [e, h]; rfl
  · exact h

theorem isPersistent_eq (n : Naming) (ik : IKey) : n.isPersistent ik = (n.find? ik).any (!·.ephemeral) := by
  unfold Naming.isPersistent Naming.find?
  cases AL.get? n.services ik.skey with
  | none => rfl
  | some s => simp only [Option.bind_some]; cases AL.get? s.insts ik.short <;> rfl

theorem find?_removeClientStep (c : String) (now : Int) (acc : Naming) (ik ik2 : IKey) :
    (Naming.removeClientStep c now acc ik).find? ik2 =
      if ik = ik2 then (acc.find? ik).filter fun i => !i.ephemeral || i.guarded (some c) else acc.find? ik2 := by
  unfold Naming.removeClientStep
  rw [isPersistent_eq, apply_ite (Naming.find? · ik2), find?_removeInstance]
  -- the address `⟨ik.skey, ik.short⟩` that `find?_removeInstance` speaks of is `ik` (eta)
  by_cases e : ik = ik2
  · subst e
    rw [if_pos rfl, if_pos rfl]
    -- a persistent instance passes the filter; for any other the filter is that of `find?_removeInstance`
    cases acc.find? ik with
    | none => rfl
    | some i => cases h : i.ephemeral <;> simp [Option.filter_some, h]
  · rw [if_neg e, if_neg e, ite_self]

theorem find?_removeClient (n : Naming) (c : String) (now : Int) (ik : IKey) :
    (n.removeClient c now).find? ik =
      if ik ∈ recs n.clientSets c then (n.find? ik).filter fun i => !i.ephemeral || i.guarded (some c) else n.find? ik := by
  unfold Naming.removeClient recs
  cases AL.get? n.clientSets c with
  | none => simp
  | some keys =>
    exact Fold.foldl_at (look := Naming.find?) (find?_removeClientStep c now)
      (fun o => Option.filter_filter.trans (by simp)) keys _ ik

/-- **when a connection ends, no instance of any other client and no persistent instance is removed** -/
theorem disconnect_keeps_others (n : Naming) (c : String) (now : Int) (k : SKey) (key : ShortKey)
    (i : Inst) (s : Svc) (h : Inv n) (hs : AL.get? n.services k = some s) (hi : AL.get? s.insts key = some i)
    (hkeep : i.ephemeral = false ∨ i.clientId ≠ c) :
    ∃ s', AL.get? (n.removeClient c now).services k = some s' ∧ AL.get? s'.insts key = some i := by
  apply find?_eq_some (ik := ⟨k, key⟩).1
  have h0 : n.find? ⟨k, key⟩ = some i := find?_eq_some.2 ⟨s, hs, hi⟩
  rw [find?_removeClient, h0]
  split
  · next hm =>
    rcases hkeep with hk | hk
    · simp [Option.filter, hk]
    · -- what is recorded for the connection is the connection's
      exact absurd (h.ownedBy_of_mem_recs hm h0).1 hk
  · rfl

/-- the instance stored under `(k, key)` is gone -/
def Absent (n : Naming) (k : SKey) (key : ShortKey) : Prop :=
  ∀ s, AL.get? n.services k = some s → AL.get? s.insts key = none

theorem absent_iff (n : Naming) (k : SKey) (key : ShortKey) : Absent n k key ↔ n.find? ⟨k, key⟩ = none := by
  unfold Absent Naming.find?
  cases AL.get? n.services k <;> simp

/-- **when a connection ends, every ephemeral instance it registered is removed** -/
theorem disconnect_removes_own (n : Naming) (c : String) (now : Int) (keys : List IKey) (ik : IKey)
    (hg : AL.get? n.clientSets c = some keys) (hik : ik ∈ keys)
    (heph : ∀ s i, AL.get? n.services ik.skey = some s → AL.get? s.insts ik.short = some i →
      i.ephemeral = true ∧ i.clientId = c) :
    Absent (n.removeClient c now) ik.skey ik.short := by
  rw [absent_iff]
  show Naming.find? _ ik = none
  rw [find?_removeClient, if_pos (by unfold recs; rw [hg]; exact hik), Option.filter_eq_none_iff]
  intro i hf
  obtain ⟨s, h1, h2⟩ := find?_eq_some.1 hf
  obtain ⟨he, hc⟩ := heph s i h1 h2
  simp [Inst.guarded, he, hc]


/-- **the committed removal of a persistent record never takes an ephemeral registration away**: when the instance
stored under the address is ephemeral (it was re-registered meanwhile), the apply of `NamingRaftReq::RemoveInstance`
changes nothing (fixed finding F31: it used to remove whatever was stored) -/
theorem raft_remove_keeps_ephemeral (n : Naming) (k : SKey) (short : ShortKey) (now : Int) (svc : Svc) (i : Inst)
    (hs : AL.get? n.services k = some svc) (hi : AL.get? svc.insts short = some i) (he : i.ephemeral = true) :
    n.raftRemove k short now = n := by
  simp [Naming.raftRemove, hs, hi, he]

/-- … and it removes a persistent one like a deregistration without a client id does -/
theorem raft_remove_persistent (n : Naming) (k : SKey) (short : ShortKey) (now : Int) (svc : Svc) (i : Inst)
    (hs : AL.get? n.services k = some svc) (hi : AL.get? svc.insts short = some i) (he : i.ephemeral = false) :
    n.raftRemove k short now = (n.removeInstance k short none now).1 := by
  simp [Naming.raftRemove, hs, hi, he]

end RNacos.Props.C12
