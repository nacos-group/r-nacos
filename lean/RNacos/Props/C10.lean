import RNacos.Model.Listener
import RNacos.Props.C09
/-!
# C10 — config change notification is complete: no listener waits on a stale md5

Model: `RNacos/Model/Listener.lean`.  The title is proved as an invariant over **every** interleaving
of listen / tick / subscribe / unsubscribe / client removal / publish / remove:
a registered long-poll always holds, for each of its keys, exactly the md5 the store has now — so a
change can never go unreported to it — and it is wired into the per-key index that `notify` consults.
-/
namespace RNacos.Props.C10
open RNacos RNacos.Config RNacos.Listener

/-- the alphabet the property quantifies over (temporary values and imports are other entry points) -/
def InAlphabet : Listener.Op → Bool
  | .tmp .. => false
  | .full .. => false
  | _ => true

/-- **no stale waiter**: every pending long-poll holds the current md5 of each of its keys, and is
registered under each of them -/
def NoStale (c : CState) : Prop :=
  ∀ p ∈ c.l.pending, ∀ it ∈ p.items,
    curMd5 c.store it.1 = it.2 ∧ ∃ vs, AL.get? c.l.byKey it.1 = some vs ∧ p.version ∈ vs

/-- bookkeeping invariant: versions of pending requests are ≤ the counter -/
def VersionsBelow (c : CState) : Prop := ∀ p ∈ c.l.pending, p.version ≤ c.l.version

theorem changed_nil_iff (s : Store) (items : List (Key × String)) :
    changed s items = [] ↔ ∀ it ∈ items, curMd5 s it.1 = it.2 := by
  unfold changed curMd5
  rw [List.map_eq_nil_iff, List.filter_eq_nil_iff]
  refine forall_congr' fun it => imp_congr_right fun _ => ?_
  cases s.get it.1 with
  | none => simp [eq_comm (a := "")]
  | some v => simp

/-- **told immediately if the held md5 differs**: a listen request with at least one differing item is
answered in the same step with exactly the differing keys, and nothing is registered -/
theorem immediate_if_differs (c : CState) (items : List (Key × String)) (dl : Int)
    (h : changed c.store items ≠ []) :
    c.listen items dl = (c, [Out.data 0 (changed c.store items)]) := by
  simp [CState.listen, h]

/-- otherwise (and with a positive timeout) it is registered and not answered yet -/
theorem registered_if_same (c : CState) (items : List (Key × String)) (dl : Int)
    (h : changed c.store items = []) (hd : 0 < dl) :
    c.listen items dl = ({ c with l := c.l.add items dl }, []) := by
  simp [CState.listen, h, Int.not_le.mpr hd]

/-- the `match` in `LState.add` as a function of the looked-up value: the shape `AL.get?_foldl_set` takes -/
theorem add_byKey (l : LState) (items : List (Key × String)) (dl : Int) :
    (l.add items dl).byKey =
      items.foldl (fun acc it => AL.set acc it.1 ((AL.get? acc it.1).getD [] ++ [l.version + 1])) l.byKey := by
  simp only [LState.add]
  congr 1
  funext acc it
  cases AL.get? acc it.1 <;> rfl

theorem add_registered (l : LState) (items : List (Key × String)) (dl : Int) (k : Key) (w : Nat)
    (h : (∃ vs, AL.get? l.byKey k = some vs ∧ w ∈ vs) ∨ (k ∈ items.map (·.1) ∧ w = l.version + 1)) :
    ∃ vs, AL.get? (l.add items dl).byKey k = some vs ∧ w ∈ vs := by
  rw [add_byKey]
  apply AL.get?_foldl_set (fun it : Key × String => it.1) (·.getD [] ++ [l.version + 1]) (w ∈ ·)
    (fun vs hw => List.mem_append_left _ hw)
  rcases h with h | ⟨hk, rfl⟩
  · exact Or.inl h
  · exact Or.inr ⟨hk, fun o => List.mem_append_right _ (List.mem_singleton_self _)⟩

/-! ### `notify` answers and removes every pending request registered under the key -/

theorem notify_pending (l : LState) (k : Key) :
    ∀ p ∈ (l.notify k).1.pending, p ∈ l.pending ∧
      ∀ vs, AL.get? l.byKey k = some vs → p.version ∉ vs := by
  intro p hp
  unfold LState.notify at hp
  cases hg : AL.get? l.byKey k with
  | none => rw [hg] at hp; exact ⟨hp, by intro vs h; cases h⟩
  | some vs =>
    rw [hg] at hp
    simp only [List.mem_filter, Bool.not_eq_true', List.contains_eq_mem, decide_eq_false_iff_not] at hp
    exact ⟨hp.1, by intro vs' h; cases h; exact hp.2⟩

theorem notify_byKey_other (l : LState) (k k' : Key) (h : k ≠ k') :
    AL.get? (l.notify k).1.byKey k' = AL.get? l.byKey k' := by
  unfold LState.notify
  cases hg : AL.get? l.byKey k with
  | none => rfl
  | some vs => simp only [AL.get?_erase_other _ _ _ h]

theorem notify_version (l : LState) (k : Key) : (l.notify k).1.version = l.version := by
  unfold LState.notify; cases AL.get? l.byKey k <;> rfl

/-- Serves publish and remove alike, hence the arbitrary `st` and `sub`: what the store holds under `k` afterwards does
not matter, since no surviving request waits on `k` (`notify_pending`), and other keys read as before. -/
theorem noStale_notify (c : CState) (k : Key) (st : Store) (sub : SubState) (h : NoStale c)
    (hst : ∀ k', k ≠ k' → st.get k' = c.store.get k') :
    NoStale { store := st, l := (c.l.notify k).1, sub := sub } := by
  intro q hq it hit
  obtain ⟨hq0, hnot⟩ := notify_pending c.l k q hq
  obtain ⟨hm, vs, hvs, hv⟩ := h q hq0 it hit
  have hne : k ≠ it.1 := fun e => hnot vs (e ▸ hvs) hv
  exact ⟨by rw [curMd5, hst _ hne]; exact hm, vs, (notify_byKey_other _ _ _ hne).trans hvs, hv⟩

theorem curMd5_quiet_publish (s : Store) (p : SetParam) (hn : (s.setConfig p).2 = false) (k : Key) :
    curMd5 (s.setConfig p).1 k = curMd5 s k := by
  rw [C09.setConfig_snd] at hn
  obtain ⟨v, hv, he⟩ := C09.published_quiet _ p hn
  unfold curMd5
  rw [Store.get, C09.setConfig_cache, AL.get?_set, he]
  by_cases e : p.key = k
  · rw [if_pos e, ← e, hv]; rfl
  · rw [if_neg e]; rfl

theorem noStale_preserved (c : CState) (op : Listener.Op) (ha : InAlphabet op = true) (h : NoStale c) :
    NoStale (c.step op).1 := by
  cases op with
  | tmp k v n => cases ha
  | full k ct hs t d l => cases ha
  | publish p =>
    simp only [CState.step]
    split
    · exact noStale_notify c p.key _ _ h (C09.get_other_key c.store (.add p))
    · next hn =>
      exact fun q hq it hit =>
        (h q hq it hit).imp_left (curMd5_quiet_publish c.store p (Bool.eq_false_iff.mpr hn) it.1).trans
  | remove k => exact noStale_notify c k _ _ h (C09.get_other_key c.store (.remove k))
  | listen items dl =>
    simp only [CState.step, CState.listen]
    split
    · exact h
    · rename_i hcond
      simp only [Bool.or_eq_true, Bool.not_eq_true', List.isEmpty_eq_false_iff, not_or, Decidable.not_not] at hcond
      -- the requests there were stay registered; the new one holds what the store has and is entered under each key
      exact List.forall_mem_append.2
        ⟨fun q hq it hit => (h q hq it hit).imp_right fun hr => add_registered c.l items dl it.1 q.version (Or.inl hr),
          List.forall_mem_singleton.2 fun it hit => ⟨(changed_nil_iff c.store items).mp hcond.1 it hit,
            add_registered c.l items dl it.1 _ (Or.inr ⟨List.mem_map_of_mem hit, rfl⟩)⟩⟩
  | tick now => exact fun q hq => h q (List.mem_filter.1 hq).1
  | _ => exact h  -- the subscribers' operations touch neither the store nor the long-polls

/-- the store op a listener op is, if any -/
def toStoreOp : Listener.Op → Option Config.Op
  | .publish p => some (.add p)
  | .remove k => some (.remove k)
  | .tmp k v n => some (.tmp k v n)
  | .full k c h t d l => some (.full k c h t d l)
  | _ => none

theorem step_store (c : CState) (op : Listener.Op) :
    (c.step op).1.store = match toStoreOp op with | some o => c.store.step o | none => c.store := by
  cases op with
  | publish p => simp only [CState.step]; split <;> rfl
  | listen items dl => simp only [CState.step, CState.listen]; split <;> rfl
  | _ => rfl

/-- the same with the store invariant of C09 beside it, which every operation keeps as well (the listeners' part above
does not rest on it) -/
theorem noStale_step (c : CState) (op : Listener.Op) (ha : InAlphabet op = true) (hinv : C09.Inv c.store)
    (h : NoStale c) : NoStale (c.step op).1 ∧ C09.Inv (c.step op).1.store := by
  refine ⟨noStale_preserved c op ha h, ?_⟩
  rw [step_store]
  split
  · exact C09.inv_step _ _ hinv
  · exact hinv

/-- **No ordering of listen, publish and remove can make a change go unreported**: in every state
reachable through the property's alphabet, no registered long-poll holds a stale md5. -/
theorem no_stale_run (ops : List Listener.Op) (c : CState) (ha : ∀ op ∈ ops, InAlphabet op = true) (h : NoStale c) :
    NoStale (c.run ops).1 := by
  induction ops generalizing c with
  | nil => exact h
  | cons op rest ih =>
    simp only [CState.run]
    exact ih _ (fun o ho => ha o (List.mem_cons_of_mem _ ho)) (noStale_preserved c op (ha op List.mem_cons_self) h)

theorem no_stale_waiter : ∀ (ops : List Listener.Op) (c : CState), (∀ op ∈ ops, InAlphabet op = true) →
    C09.Inv c.store → NoStale c → NoStale (c.run ops).1 :=
  fun ops c ha _ h => no_stale_run ops c ha h

theorem no_stale_waiter_from_start (ops : List Listener.Op) (ha : ∀ op ∈ ops, InAlphabet op = true) :
    NoStale (({} : CState).run ops).1 :=
  no_stale_run ops {} ha (List.forall_mem_nil _)

/-- and a change of a key answers every long-poll registered under it in the same step -/
theorem change_answers_all (l : LState) (k : Key) (vs : List Nat) (hg : AL.get? l.byKey k = some vs)
    (p : Pending) (hp : p ∈ l.pending) (hv : p.version ∈ vs) :
    Out.data p.version [k] ∈ (l.notify k).2 := by
  unfold LState.notify
  rw [hg]
  simp only [List.mem_map, List.mem_eraseDups, List.mem_filter, List.any_eq_true, beq_iff_eq]
  exact ⟨p.version, ⟨hv, p, hp, rfl⟩, rfl⟩

/-! ### temporary values and imports are outside the alphabet for a reason -/

/-- counter-example kept visible: a follower's temporary value changes the served md5 without telling a
registered listener (this is C06 territory: the applied publish that follows does notify) -/
theorem tmp_breaks_no_stale :
    let k : Key := ⟨"d", "g", "t"⟩
    let ops : List Listener.Op := [.publish ⟨k, "a", none, none, 1, none, 1, none⟩, .listen [(k, "a")] 100, .tmp k "b" 0]
    ¬ NoStale (({} : CState).run ops).1 := by
  intro k ops h
  have := h ⟨1, [(k, "a")], 100⟩ (by decide) (k, "a") (by decide)
  exact absurd this.1 (by decide)

/-- **… and the applied publish that follows does notify**, whatever it contains - in particular when it carries the
very content the temporary value shows (the usual case: the follower stored what it forwarded): `set_config` takes the
"unchanged" shortcut only for a value that is *not* temporary -/
theorem publish_after_tmp_notifies (s : Store) (k : Key) (val : String) (now : Int) (p : SetParam) (hk : p.key = k) :
    ((s.setTmp k val now).setConfig p).2 = true := by
  obtain ⟨v, hv, ht⟩ := C09.setTmp_cache s k val now
  simp [C09.setConfig_snd, Store.get, hk, hv, C09.published, ht]

/-- hence every long-poll registered under the key is answered by that publish (with `change_answers_all`) -/
theorem publish_after_tmp_answers (c : CState) (k : Key) (val : String) (now : Int) (p : SetParam) (hk : p.key = k)
    (vs : List Nat) (hg : AL.get? c.l.byKey k = some vs) (q : Pending) (hq : q ∈ c.l.pending) (hv : q.version ∈ vs) :
    Out.data q.version [k] ∈ (((c.step (.tmp k val now)).1).step (.publish p)).2 := by
  have hn := publish_after_tmp_notifies c.store k val now p hk
  simp only [CState.step, hn, if_true, hk]
  exact List.mem_append_left _ (change_answers_all c.l k vs hg q hq hv)

/-- after a tick at `now`, no long-poll filed under a time that has passed is still pending (among the first 10000
times, the cap of one `timeout` call; `byTime` ascending as the `BTreeMap` is). That a request is filed under its own
deadline is how `add` enters it (`insertTime`); the statement does not speak of `p.deadline`. -/
theorem tick_answers_expired (l : LState) (now : Int) (p : Pending) (hp : p ∈ (l.timeout now).1.pending)
    (hreg : ∃ e ∈ (l.byTime.take 10000).takeWhile (fun e => e.1 < now), p.version ∈ e.2) : False := by
  unfold LState.timeout at hp
  simp only [List.mem_filter, Bool.not_eq_true', List.contains_eq_mem, decide_eq_false_iff_not] at hp
  obtain ⟨e, he, hv⟩ := hreg
  exact hp.2 (List.mem_flatMap.mpr ⟨e, he, hv⟩)

/-- a content-changing publish notifies exactly the current subscribers of the key -/
theorem publish_notifies_subscribers (c : CState) (p : SetParam) (cs : List String)
    (hn : (c.store.setConfig p).2 = true) (hs : AL.get? c.sub.byKey p.key = some cs) :
    Out.notify p.key cs ∈ (c.step (.publish p)).2 := by
  simp only [CState.step, hn, if_true, SubState.notify, hs]
  simp

theorem remove_notifies_subscribers (c : CState) (k : Key) (cs : List String)
    (hs : AL.get? c.sub.byKey k = some cs) : Out.notify k cs ∈ (c.step (.remove k)).2 := by
  simp only [CState.step, SubState.notify, hs]
  simp

/-- **known finding F13, as a theorem about the model of the current code**: removing a key silently
drops its gRPC subscriptions, so a later re-publish is not reported to a client that never
unsubscribed. -/
theorem remove_drops_subscription_counterexample :
    let k : Key := ⟨"d", "g", "t"⟩
    let ops : List Listener.Op := [.publish ⟨k, "a", none, none, 1, none, 1, none⟩, .subscribe "c1" [(k, "a")],
      .remove k, .publish ⟨k, "b", none, none, 2, none, 2, none⟩]
    (({} : CState).run ops).2 = [Out.notify k ["c1"]] := by
  decide

theorem mem_setInsert_self {α : Type} [DecidableEq α] (l : List α) (a : α) : a ∈ setInsert l a := by
  unfold setInsert
  split
  · assumption
  · exact List.mem_append_right _ (List.mem_singleton_self a)

/-- the partial form that does hold: as long as the key is not removed in between, a subscriber is in
every notification of the key – stated for one step: subscribing puts the client into the key's set -/
theorem subscribe_registers (s : SubState) (client : String) (keys : List Key) (k : Key) (hk : k ∈ keys) :
    ∃ cs, AL.get? (s.add client keys).byKey k = some cs ∧ client ∈ cs :=
  AL.get?_foldl_set (fun k : Key => k) (fun o => setInsert (o.getD []) client) (client ∈ ·)
    (fun _ _ => mem_setInsert_self ..) k keys s.byKey (Or.inr ⟨by simpa using hk, fun _ => mem_setInsert_self ..⟩)

-- `NoStale` is not vacuous: a reachable state with a request pending
example : ∃ c : CState, NoStale c ∧ c.l.pending ≠ [] :=
  ⟨(({} : CState).run [.publish ⟨⟨"d", "g", "t"⟩, "a", none, none, 1, none, 1, none⟩,
      .listen [(⟨"d", "g", "t"⟩, "a")] 100]).1,
   no_stale_waiter_from_start _ (by decide), by decide⟩

end RNacos.Props.C10
