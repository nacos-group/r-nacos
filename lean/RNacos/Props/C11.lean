import RNacos.Lemmas.Naming
/-!
# C11 — registry bookkeeping: counters, indexes, reverse maps always match instances

Model: `RNacos/Model/Naming.lean`.  Helper lemmas: `RNacos/Lemmas/{NamingSvc,Naming}.lean`.
The invariant is proved for **every** sequence of the actor's operations: register/update from any
origin with any update tag, deregistration with any client id, client removal, health/instance time-out
checks at any times, console removal of services, process-range refresh.
-/
namespace RNacos.Props.C11
open RNacos RNacos.Naming

/-- the operations of the registry (one per `NamingCmd` that changes state) -/
inductive NOp where
  | update (k : SKey) (inst : Inst) (tag : Option Tag) (fromSync : Bool) (now : Int) (hash : Nat)
  | remove (k : SKey) (short : ShortKey) (client : Option String) (now : Int)
  | removeClient (c : String) (now : Int)
  | timeCheck (now : Int)
  | removeService (k : SKey)
  | clearEmpty (k : SKey) (now : Int)
  /-- the apply of a committed Raft removal of a persistent record -/
  | raftRemove (k : SKey) (short : ShortKey) (now : Int)
  /-- another node's digest of its gRPC connections (`SyncDistroClientInstances` -> `DiffGrpcDistroData`) -/
  | digest (data : List (String × List IKey)) (now : Int)
  /-- the result of the TCP probe of a persistent instance's host (`PerpetualHostSniffing`) -/
  | probe (k : SKey) (short : ShortKey) (ok : Bool)
  deriving Repr

/-- a change of the process range (`ClusterRefreshProcessRange`) keeps the invariant as well; it is not an `NOp` only
because it carries a function (the hash of a service key) -/
theorem inv_range_change (n : Naming) (r : Nat × Nat) (hashOf : SKey → Nat) (h : Inv n) : Inv (n.refreshRange r hashOf) :=
  inv_refreshRange n r hashOf h

def step (n : Naming) : NOp → Naming
  | .update k i t fs now h => n.updateInstance k i t fs now h
  | .remove k s c now => (n.removeInstance k s c now).1
  | .removeClient c now => n.removeClient c now
  | .timeCheck now => n.timeCheck now
  | .removeService k => (n.removeService k).1
  | .clearEmpty k now => n.clearOneEmpty k now
  | .raftRemove k s now => n.raftRemove k s now
  | .digest data now => (n.diffClientData data now).1
  | .probe k s ok => n.probe k s ok

def run (n : Naming) (ops : List NOp) : Naming := ops.foldl step n

/-- every registration handed in respects the origin convention (HTTP handlers never set a client id) -/
def OpsOK (ops : List NOp) : Prop := ∀ op ∈ ops, match op with
  | .update _ i _ _ _ _ => OriginOK i
  | _ => True

theorem inv_step (n : Naming) (op : NOp) (h : Inv n) (hop : match op with | .update _ i _ _ _ _ => OriginOK i | _ => True) :
    Inv (step n op) := by
  cases op with
  | update k i t fs now hs => exact inv_updateInstance n k i t fs now hs h hop
  | remove k s c now => exact inv_removeInstance n k s c now h
  | removeClient c now => exact inv_removeClient n c now h
  | timeCheck now => exact inv_timeCheck n now h
  | removeService k => exact inv_removeService n k h
  | clearEmpty k now => exact inv_clearOneEmpty n k now h
  | raftRemove k s now => exact inv_raftRemove n k s now h
  | digest data now => exact inv_diffClientData n data now h
  | probe k s ok => exact inv_probe n k s ok h

/-- **the bookkeeping invariant holds at every moment** -/
theorem inv_reachable (ops : List NOp) (hok : OpsOK ops) : Inv (run {} ops) :=
  List.foldlRecOn ops step inv_empty fun n h op hop => inv_step n op h (hok op hop)

/-! ## the property, clause by clause -/

/-- **reported instance count = number of instances returned; healthy count = number of healthy ones** -/
theorem counters_exact (ops : List NOp) (hok : OpsOK ops) (k : SKey) (s : Svc)
    (hs : AL.get? (run {} ops).services k = some s) :
    s.instSize = ((run {} ops).queryAll k).length ∧
    s.healthySize = (((run {} ops).queryAll k).filter (·.healthy)).length := by
  have hi := (inv_reachable ops hok).svcs k s hs
  unfold Naming.queryAll
  rw [hs]
  refine ⟨by rw [hi.size, List.length_map], ?_⟩
  rw [hi.healthy, List.filter_map, List.length_map]
  rfl

/-- **the set of persistent instances equals the non-ephemeral ones** -/
theorem persistent_set_exact (ops : List NOp) (hok : OpsOK ops) (k : SKey) (s : Svc)
    (hs : AL.get? (run {} ops).services k = some s) (key : ShortKey) :
    key ∈ s.perpetual ↔ ∃ i, AL.get? s.insts key = some i ∧ i.ephemeral = false :=
  ((inv_reachable ops hok).svcs k s hs).perp key

/-- **every service with data is listed exactly once in the index** (and nothing else is) -/
theorem index_exact (ops : List NOp) (hok : OpsOK ops) :
    (run {} ops).nsIndex.Nodup ∧ ∀ k, k ∈ (run {} ops).nsIndex ↔ (AL.get? (run {} ops).services k).isSome = true :=
  ⟨(inv_reachable ops hok).idxNodup, (inv_reachable ops hok).idx⟩

/-- **every instance recorded for a client connection exists and belongs to that connection** -/
theorem client_map_exact (ops : List NOp) (hok : OpsOK ops) (c : String) (ks : List IKey)
    (hc : AL.get? (run {} ops).clientSets c = some ks) (ik : IKey) (hik : ik ∈ ks) :
    ∃ s i, AL.get? (run {} ops).services ik.skey = some s ∧ AL.get? s.insts ik.short = some i ∧ i.clientId = c := by
  obtain ⟨s, i, h1, h2, h3, _, _⟩ := ((inv_reachable ops hok).clients c ks hc).2 ik hik
  exact ⟨s, i, h1, h2, h3⟩

/-- **empty services are only dropped when they really have no instances**: whenever the clean-up or
the console removes a service from a reachable state, that service had no instance -/
theorem empty_drop_safe (n : Naming) (h : Inv n) (k : SKey) (now : Int) (s : Svc)
    (hs : AL.get? n.services k = some s) (hdrop : AL.get? (n.clearOneEmpty k now).services k = none) :
    s.insts = [] := by
  refine (h.svcs k s hs).insts_nil (Classical.byContradiction fun hz => ?_)
  -- with a positive counter nothing is dropped
  simp [Naming.clearOneEmpty, hs, hz] at hdrop

/-- the console cannot remove a service that still has instances -/
theorem console_remove_refused (n : Naming) (h : Inv n) (k : SKey) (s : Svc)
    (hs : AL.get? n.services k = some s) (hne : s.insts ≠ []) : (n.removeService k) = (n, false) := by
  unfold Naming.removeService
  rw [hs]
  exact if_neg fun hsz => hne ((h.svcs k s hs).insts_nil hsz)

/-! ## non-vacuity: a gRPC registration, the same address synced from another node under another connection's id, the
end of the first connection -/
example : OpsOK [.update ⟨"ns", "g", "s"⟩ ⟨"1.1.1.1", 80, 1000, true, true, true, true, 0, "c1", 0⟩ none false 5 0,
    .update ⟨"ns", "g", "s"⟩ ⟨"1.1.1.1", 80, 1000, true, true, true, false, 2, "2_x", 0⟩ none true 9 0,
    .removeClient "c1" 10] := by
  intro op hop
  simp only [List.mem_cons, List.mem_nil_iff, or_false] at hop
  rcases hop with rfl | rfl | rfl <;> simp [OriginOK]

end RNacos.Props.C11
