import RNacos.Gen.ApplyPaths
/-!
# C07 — leader apply, follower replication and restart replay yield the same state

The three paths are three hand-written copies of one match over `ClientRequest`.  The translator re-extracts the
three dispatch tables from src/raft/filestore/raftdata.rs on every run (`RNacos/Gen/ApplyPaths.lean`: per variant
the target component and the message expression, with the delivery syntax – `send().await??`, `do_send`,
`send().await.ok()` – stripped).  The theorems: the regenerated tables are equal row by row and cover the enum
(kernel-evaluated), and – for **arbitrary** behaviour of the components – equal tables give equal states for every
request sequence and every split into batches.
-/
namespace RNacos.Props.C07
open RNacos.Apply RNacos.Gen

/-- **the three copies agree**: same variants in the same order, same target, same message for every variant -/
theorem paths_same_dispatch : followerTable = leaderTable ∧ replayTable = leaderTable := ⟨rfl, rfl⟩

/-- every variant of the enum has a row (none is silently dropped on any path), exactly one -/
theorem every_variant_routed :
    (∀ v ∈ clientRequestVariants, (leaderTable.lookup v).isSome) ∧
    leaderTable.map (·.variant) = clientRequestVariants.filter (fun v => (leaderTable.lookup v).isSome) ∨
    (leaderTable.map (·.variant)).Nodup := by
  right; decide +kernel

theorem every_variant_has_a_row : ∀ v ∈ clientRequestVariants, (leaderTable.lookup v).isSome := by
  decide +kernel

theorem rows_only_for_variants : ∀ r ∈ leaderTable, r.variant ∈ clientRequestVariants := by
  decide +kernel

/-- every component of the handler is asked for its part of a snapshot -/
theorem every_component_snapshotted : ∀ c ∈ handlerComponents, c ∈ buildSnapshotComponents := by
  decide +kernel

/-! ### what equal tables mean, for any behaviour of the components -/

variable {α σ : Type}

/-- no request of the sequence is malformed (its message can be built) – what a committed sequence consists of:
the only fallible construction is `ConfigValueDO::from_bytes` of a `ConfigFullValue`, and those payloads are
produced by `to_bytes` -/
def WellFormed (sem : Sem α σ) (t : Table) (rs : List (Req α)) : Prop := ∀ r ∈ rs, failsOn sem t r = false

theorem applyBatch_eq_applyAll (sem : Sem α σ) (t : Table) (st : State σ) (rs : List (Req α))
    (h : WellFormed sem t rs) : applyBatch sem t st rs = applyAll sem t st rs := by
  induction rs generalizing st with
  | nil => rfl
  | cons r rs ih =>
    obtain ⟨hr, h⟩ := List.forall_mem_cons.1 h
    rw [applyBatch, hr, if_neg Bool.false_ne_true, ih _ h]
    rfl

/-- **any batching**: the follower path, whatever the split of the committed sequence into batches, reaches the
state of the leader path -/
theorem any_batching_same_state (sem : Sem α σ) (st : State σ) (bs : List (List (Req α)))
    (h : WellFormed sem leaderTable bs.flatten) :
    applyBatches sem followerTable st bs = applyAll sem leaderTable st bs.flatten := by
  rw [paths_same_dispatch.1]
  induction bs generalizing st with
  | nil => rfl
  | cons b bs ih =>
    obtain ⟨hb, h⟩ := List.forall_mem_append.1 (List.flatten_cons ▸ h)
    rw [applyBatches, List.foldl_cons, applyBatch_eq_applyAll sem leaderTable st b hb, List.flatten_cons]
    unfold applyAll
    rw [List.foldl_append]
    exact ih _ h

/-- **replay**: the start-up path reaches the same state from the same log -/
theorem replay_same_state (sem : Sem α σ) (st : State σ) (rs : List (Req α)) :
    applyAll sem replayTable st rs = applyAll sem leaderTable st rs := by
  rw [paths_same_dispatch.2]

/-- kept visible: with a malformed request the paths do differ – the leader answers that entry with an error and
goes on, the follower drops the rest of its batch.  (Outside the property's "committed request sequence" as long
as such a payload cannot be committed; recorded in DESIGN.md.) -/
theorem malformed_request_diverges :
    ∃ (sem : Sem Nat Nat) (t : Table) (st : State Nat) (rs : List (Req Nat)),
      applyBatch sem t st rs ≠ applyAll sem t st rs := by
  refine ⟨⟨fun _ _ p s => s + p, fun _ p => p == 0⟩, [⟨[1], [2], [3]⟩], fun _ => 0,
    [⟨[1], 0⟩, ⟨[1], 5⟩], ?_⟩
  intro h
  have := congrFun h [2]
  revert this
  decide

example : WellFormed (⟨fun _ _ p s => s + p, fun _ _ => false⟩ : Sem Nat Nat) leaderTable [⟨[1], 3⟩] := by
  intro r _; unfold failsOn; split <;> rfl

end RNacos.Props.C07
