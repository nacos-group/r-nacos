import RNacos.Model.WritePath
import RNacos.Gen.WritePath
/-!
# C06 — cluster: acknowledged config writes are never lost; all nodes converge

What r-nacos adds to Raft on this path is small: routing to the leader and *telling the client the truth* about the
outcome.  This file proves the second: with every `Result` on the write path propagated – which the translator reads
off the source on every run (13 call sites and the two success exits of the router) – a client is told "success" only if Raft committed the entry, on every
route.  "Committed entries survive any minority of crashes and all nodes apply them in the same order" is Raft's
guarantee given a correct `RaftStorage` (C02–C05, C07: the log returns what was appended, truncation is exact, term /
vote / membership are durable, the three apply paths agree) and async-raft itself, which is trusted, not verified.
The convergence of a real 3-process cluster under kills and restarts is explored by `./check C06 --tier thorough`
(model `cluster`), not proved.
-/
namespace RNacos.Props.C06
open RNacos.WritePath RNacos.Gen

/-- the regenerated table: every result on the write path is propagated -/
theorem all_results_propagated : ∀ s ∈ writePathSites, s.2 = true := by decide +kernel

def sitesAllPropagated : Sites := ⟨true, true, true, true, true⟩

/-- the model's parameters as read off the source: a flag is set iff every call site of the table propagates -/
def sitesFromSource : Sites :=
  let ok := writePathSites.all (·.2)
  ⟨ok, ok, ok, ok, ok⟩

theorem source_propagates_everything : sitesFromSource = sitesAllPropagated := by decide +kernel

/-- with every result propagated the client is told "success" iff the entry is committed and the request reached the
leader -/
theorem success_propagated (r : Route) (w : World) :
    success sitesAllPropagated r w =
      (w.committed && match r with | .localLeader => true | .remote => w.transportOk | .unknown => false) := by
  cases r <;> cases w with | mk c t => cases c <;> cases t <;> rfl

/-- **acknowledged ⇒ committed**, on every route, whatever happens to the request -/
theorem ack_implies_committed (r : Route) (w : World) (h : success sitesFromSource r w = true) :
    w.committed = true := by
  rw [source_propagates_everything, success_propagated, Bool.and_eq_true] at h
  exact h.1

/-- a write that could not be committed is answered with an error -/
theorem uncommitted_is_error (r : Route) (w : World) (h : w.committed = false) :
    success sitesFromSource r w = false := by
  rw [source_propagates_everything, success_propagated, h, Bool.false_and]

/-- and nothing is refused needlessly: a committed write whose messages travelled is answered with success -/
theorem committed_is_success (w : World) (hc : w.committed = true) (ht : w.transportOk = true) :
    success sitesFromSource .localLeader w = true ∧ success sitesFromSource .remote w = true := by
  simp only [source_propagates_everything, success_propagated, hc, ht, Bool.and_self, and_self]

/-- kept visible (the defect that was repaired, F27): with the raft result dropped – as the code was – a write that
Raft did not commit is answered with success -/
theorem dropped_result_acknowledges_uncommitted :
    success ⟨false, true, true, true, true⟩ .localLeader ⟨false, true⟩ = true ∧
    success ⟨true, false, true, true, true⟩ .localLeader ⟨false, true⟩ = true := by decide

example : success sitesAllPropagated .remote ⟨true, true⟩ = true := by decide

end RNacos.Props.C06
