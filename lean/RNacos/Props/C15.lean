import RNacos.Model.Sync
import RNacos.Model.Digest
import RNacos.Gen.Sync
import RNacos.Base.FoldLook
/-!
# C15 — registry converges: after quiescence every node returns the same instances

Safety form of convergence, proved on the message-level model `RNacos/Model/Sync.lean` for every interleaving of
client operations, delayed batch flushes and deliveries over an ordered link: whenever nothing is pending and
nothing is in flight, the receiver's copy of a node's instances **is** that node's instances
(`quiescent_copy_is_own`).  Coalescing – the delayed-notify actor keeps only the last change per key – does not
change what a batch does (`coalescing_sound`).
"Eventually" (that the queues do drain: timers fire, streams stay up, a dead node is detected) is liveness over the
real scheduler: explored on real 3-process clusters by `./check C15` (model `cluster`), not proved.  That every
client operation reaches exactly one owner is C14.
-/
namespace RNacos.Props.C15
open RNacos.Sync

theorem upd_apply (v : View) (c : Change) (k : Key) : upd v c k = if k = c.key then c.val else v k := rfl

def lastOf (cs : List Change) (k : Key) : Option Change := cs.reverse.find? (·.key == k)

theorem applyAll_apply (v : View) (cs : List Change) (k : Key) :
    applyAll v cs k = ((lastOf cs k).map (·.val)).getD (v k) :=
  RNacos.Fold.look_foldl (look := fun v k => v k) cs (fun c _ v k => upd_apply v c k) v k

theorem lastOf_isSome (cs : List Change) (k : Key) : (lastOf cs k).isSome = cs.any (·.key == k) := by
  rw [lastOf, List.isSome_find?, List.any_reverse]

theorem lastOf_eq_some {cs : List Change} {k : Key} {c : Change} (h : lastOf cs k = some c) : c ∈ cs ∧ c.key = k :=
  ⟨List.mem_reverse.1 (List.mem_of_find?_eq_some h), by simpa using List.find?_some h⟩

theorem applyAll_other (v : View) (cs : List Change) (k : Key) (h : cs.any (·.key == k) = false) :
    applyAll v cs k = v k := by
  have : lastOf cs k = none := by rw [← Option.not_isSome_iff_eq_none, lastOf_isSome, h]; simp
  rw [applyAll_apply, this]; rfl

/-- a change to a key that is changed again later in the list does not matter -/
theorem overwritten (cs : List Change) (v : View) (c : Change) (h : cs.any (·.key == c.key) = true) :
    applyAll (upd v c) cs = applyAll v cs := by
  funext k
  rw [applyAll_apply, applyAll_apply, upd_apply]
  cases hl : lastOf cs k with
  | some d => rfl
  | none =>
    rw [if_neg]
    rintro rfl
    rw [← lastOf_isSome, hl] at h; cases h

theorem applyAll_noop (v : View) (bs : List Change) (h : ∀ b ∈ bs, v b.key = b.val) : applyAll v bs = v := by
  funext k
  rw [applyAll_apply]
  cases hl : lastOf bs k with
  | none => rfl
  | some b =>
    obtain ⟨hb, rfl⟩ := lastOf_eq_some hl
    exact (h b hb).symm

/-- **coalescing is sound**: the batch that keeps only the last change per key has the effect of all changes -/
theorem coalescing_sound (cs : List Change) (v : View) : applyAll v (coalesce cs) = applyAll v cs := by
  induction cs generalizing v with
  | nil => rfl
  | cons c rest ih =>
    unfold coalesce
    split
    · rename_i h
      rw [ih v]
      exact (overwritten rest v c h).symm
    · exact ih (upd v c)

theorem applyAll_append (v : View) (a b : List Change) : applyAll v (a ++ b) = applyAll (applyAll v a) b := by
  unfold applyAll; rw [List.foldl_append]

/-- what the receiver will hold once everything in flight and pending has arrived -/
def eventual (l : Link) : View := applyAll (l.inflight.foldl applyAll l.copy) l.pending

/-- **the invariant**: the owner's instances are the receiver's copy plus everything still on its way, in order; a queued
heartbeat carries what the owner holds for that instance and no change of that instance is waiting to be flushed -/
def Inv (l : Link) : Prop :=
  eventual l = l.own ∧ ∀ b ∈ l.beats, l.own b.key = b.val ∧ l.pending.any (·.key == b.key) = false

theorem inv_step (l : Link) (s : Step) (h : Inv l) : Inv (l.step s) := by
  have ⟨h1, h2⟩ := h
  unfold eventual at h1
  cases s <;> simp only [Link.step]
  case client c =>
    refine ⟨by rw [eventual, applyAll_append, h1]; rfl, fun b hb => ?_⟩
    obtain ⟨hb, hne⟩ := List.mem_filter.1 hb
    have hne : b.key ≠ c.key := by simpa using hne
    exact ⟨(if_neg hne).trans (h2 b hb).1, by simpa [(h2 b hb).2] using Ne.symm hne⟩
  case flush =>
    split
    · exact h
    · refine ⟨?_, fun b hb => ⟨(h2 b hb).1, rfl⟩⟩
      simp only [eventual, List.foldl_append, List.foldl_cons, List.foldl_nil, coalescing_sound]
      exact h1
  case deliver =>
    split
    · exact h
    · rename_i b rest hb
      exact ⟨by simpa [eventual, hb] using h1, h2⟩
  case beat k =>
    split
    · exact h
    · split
      · exact h
      · rename_i v hv hp
        exact ⟨h1, List.forall_mem_append.2 ⟨fun b hb => h2 b (List.mem_filter.1 hb).1,
          List.forall_mem_singleton.2 ⟨hv, Bool.eq_false_iff.2 hp⟩⟩⟩
  case beatFlush =>
    split
    · exact h
    · refine ⟨?_, List.forall_mem_nil _⟩
      simp only [eventual, List.foldl_append, List.foldl_cons, List.foldl_nil]
      -- the heartbeat batch is applied before the pending changes, and it only says what the view before them holds:
      -- the owner holds it, and no pending change touches the key
      rw [applyAll_noop _ l.beats, h1]
      intro b hb
      rw [← (h2 b hb).1, ← h1, applyAll_other _ _ _ (h2 b hb).2]

theorem inv_run (ss : List Step) (l : Link) (h : Inv l) : Inv (l.run ss) :=
  List.foldlRecOn ss _ h fun l h s _ => inv_step l s h

/-- **convergence at quiescence**: for every interleaving of client operations, flushes and deliveries starting from
agreeing, quiet nodes – whenever nothing is pending and nothing is in flight, the copy equals the owner's instances -/
theorem quiescent_copy_is_own (ss : List Step) (v : View) (hq : ((⟨v, [], [], v, []⟩ : Link).run ss).quiescent) :
    ((⟨v, [], [], v, []⟩ : Link).run ss).copy = ((⟨v, [], [], v, []⟩ : Link).run ss).own := by
  have h := (inv_run ss ⟨v, [], [], v, []⟩ ⟨rfl, List.forall_mem_nil _⟩).1
  unfold eventual at h
  rw [hq.1, hq.2.1] at h
  exact h

/-- every node that receives the same batches in the same order holds the same copy: two receivers of one owner
agree at quiescence -/
theorem receivers_agree (ss1 ss2 : List Step) (v : View)
    (h1 : ((⟨v, [], [], v, []⟩ : Link).run ss1).quiescent) (h2 : ((⟨v, [], [], v, []⟩ : Link).run ss2).quiescent)
    (hown : ((⟨v, [], [], v, []⟩ : Link).run ss1).own = ((⟨v, [], [], v, []⟩ : Link).run ss2).own) :
    ((⟨v, [], [], v, []⟩ : Link).run ss1).copy = ((⟨v, [], [], v, []⟩ : Link).run ss2).copy := by
  rw [quiescent_copy_is_own ss1 v h1, quiescent_copy_is_own ss2 v h2, hown]

example : ((⟨fun _ => none, [], [], fun _ => none, []⟩ : Link).run
    [.client ⟨1, some 5⟩, .client ⟨1, none⟩, .client ⟨1, some 7⟩, .flush, .client ⟨2, some 1⟩, .deliver, .flush, .deliver]).quiescent := by
  unfold Link.quiescent; decide

/-- a heartbeat queued before a deregistration is discarded with it: after the heartbeat flush the receiver still has
no such instance (the sequence of the seeded change "stale heartbeat resurrects a deregistered instance") -/
example :
    let l := (⟨fun _ => none, [], [], fun _ => none, []⟩ : Link).run
      [.client ⟨1, some 5⟩, .flush, .deliver, .beat 1, .client ⟨1, none⟩, .flush, .deliver, .beatFlush, .deliver]
    l.quiescent ∧ l.copy 1 = none ∧ l.own 1 = none := by
  unfold Link.quiescent; decide

/-- a heartbeat of an instance that stays registered travels as an update that changes nothing -/
example :
    let l := (⟨fun _ => none, [], [], fun _ => none, []⟩ : Link).run
      [.client ⟨1, some 5⟩, .flush, .deliver, .beat 1, .beatFlush, .deliver]
    l.quiescent ∧ l.copy 1 = some 5 := by
  unfold Link.quiescent; decide

/-! ### what the ordered link is needed for (DESIGN.md §11.5: the real sender does not wait for the previous batch)

The model delivers batches oldest first.  The two theorems below bound that assumption: two batches may overtake each
other freely **unless they change a common key** (`batches_commute_of_disjoint`, for all batches and views), and when
they do share a key an overtaking delivery really leaves the receiver with an instance the owner has removed
(`overtaking_removal_leaves_a_ghost`, a concrete witness).  So the transport assumption is exactly "batches of one
sender that touch the same instance arrive in the order they were sent". -/

def disjointKeys (a b : List Change) : Prop := ∀ c ∈ a, ∀ d ∈ b, c.key ≠ d.key

/-- two batches that change no common key can be delivered in either order -/
theorem batches_commute_of_disjoint (v : View) (a b : List Change) (h : disjointKeys a b) :
    applyAll (applyAll v a) b = applyAll (applyAll v b) a := by
  funext k
  simp only [applyAll_apply]
  cases ha : lastOf a k with
  | none => rfl
  | some c =>
    cases hb : lastOf b k with
    | none => rfl
    | some d =>
      obtain ⟨hc, rfl⟩ := lastOf_eq_some ha
      obtain ⟨hd, hk⟩ := lastOf_eq_some hb
      exact absurd hk.symm (h c hc d hd)

/-- delivery of the *second* batch in flight first (what an unordered transport could do) -/
def _root_.RNacos.Sync.Link.deliverSecond (l : Link) : Link :=
  match l.inflight with
  | a :: b :: rest => { l with inflight := a :: rest, copy := applyAll l.copy b }
  | _ => l

/-- overtaking is harmless for batches without a common key: the state after both deliveries is the same -/
theorem overtaking_harmless_of_disjoint (l : Link) (a b : List Change) (rest : List (List Change))
    (hl : l.inflight = a :: b :: rest) (h : disjointKeys a b) :
    (l.deliverSecond.step .deliver).copy = ((l.step .deliver).step .deliver).copy
    ∧ (l.deliverSecond.step .deliver).inflight = ((l.step .deliver).step .deliver).inflight := by
  simp only [Link.deliverSecond, Link.step, hl]
  exact ⟨(batches_commute_of_disjoint l.copy a b h).symm, trivial⟩

/-- ... and it is not for batches that share a key: a registration and the removal that follows it, delivered in the
opposite order, leave the receiver with an instance its owner no longer has, in a quiescent state (nothing will repair
it at this level; the periodic digests of `Model/Digest` cover gRPC connections only) -/
theorem overtaking_removal_leaves_a_ghost :
    let l := ((⟨fun _ => none, [], [], fun _ => none, []⟩ : Link).run
      [.client ⟨1, some 5⟩, .flush, .client ⟨1, none⟩, .flush]).deliverSecond.step .deliver
    l.quiescent ∧ l.own 1 = none ∧ l.copy 1 = some 5 := by
  unfold Link.quiescent; decide

example : disjointKeys [⟨1, some 5⟩, ⟨2, none⟩] [⟨3, some 1⟩] := by
  intro c hc d hd; simp at hc hd; rcases hc with rfl | rfl <;> subst hd <;> decide

end RNacos.Props.C15

/-! ## the digest of a node's gRPC connections

`RNacos/Model/Digest.lean`: every 12 s a node sends every peer the list of its gRPC connections with the instances they
hold; the peer forgets the connections it remembers for that node that are not named, removes recorded instances that
are not listed and asks for listed ones it lacks.  It is the repair path for removals that a peer missed - in
particular when the node was restarted before the peers declared it dead and holds no connection any more.  Whether the
digest goes out also when it is empty is read off the source on every run (`Gen.digestSentWhenEmpty`). -/
namespace RNacos.Props.C15
open RNacos.Digest

theorem lookup_isSome (d : Held) (c : Client) : (lookup d c).isSome = (d.map (·.1)).contains c := by
  rw [lookup, Option.isSome_map, Bool.eq_iff_iff, List.find?_isSome, List.contains_iff_mem, List.mem_map]
  simp only [beq_iff_eq]

theorem mem_remembered_receive (p : Peer) (d : Held) (c : Client) :
    c ∈ (receive p d).remembered ↔ c ∈ d.map (·.1) := by
  unfold receive reconcile dropStale
  generalize d.map (·.1) = named
  by_cases h : c ∈ p.remembered <;> simp [h]

/-- what a peer has recorded is recorded for a connection it remembers (instances arrive together with the
connection's id: `node_add_client`) -/
def PeerOK (p : Peer) : Prop := ∀ c, p.recorded c ≠ [] → p.remembered.contains c = true

/-- **a digest makes the peer's record equal to the sender's**: for every connection, named or not, the peer holds
afterwards exactly what the digest lists for it - nothing for a connection the digest does not name -/
theorem receive_matches_sender (p : Peer) (d : Held) (hp : PeerOK p) (c : Client) :
    (receive p d).recorded c = (lookup d c).getD [] := by
  have hn := lookup_isSome d c
  unfold receive reconcile dropStale
  simp only
  cases hl : lookup d c with
  | some ks => rfl
  | none =>
    -- not named: forgotten if remembered, and nothing is recorded for a connection that is not remembered
    rw [hl] at hn
    simp only [← hn, Option.isSome_none, Bool.not_false, Bool.and_true, Option.getD_none]
    split
    · rfl
    · rename_i hr
      exact Decidable.byContradiction fun hrec => hr (hp c hrec)

/-- in particular **the empty digest clears everything** the peer still holds for the node -/
theorem empty_digest_clears (p : Peer) (hp : PeerOK p) (c : Client) : (receive p []).recorded c = [] := by
  rw [receive_matches_sender p [] hp c]; rfl

/-- and the invariant is kept -/
theorem receive_keeps_peerOK (p : Peer) (d : Held) (hp : PeerOK p) : PeerOK (receive p d) := by
  intro c hc
  rw [receive_matches_sender p d hp c] at hc
  rw [List.contains_iff_mem, mem_remembered_receive, ← List.contains_iff_mem, ← lookup_isSome]
  cases hl : lookup d c with
  | none => rw [hl] at hc; exact absurd rfl hc
  | some ks => rfl

/-- **one round heals the peer**, as the code stands (the digest is sent whatever it contains): after it the peer's record
of the node's connections is the node's own - also for a node that was restarted and holds none -/
theorem digest_round_heals (h : Held) (p : Peer) (hp : PeerOK p) (c : Client) :
    (round RNacos.Gen.digestSentWhenEmpty h p).recorded c = (lookup h c).getD [] := by
  have hflag : RNacos.Gen.digestSentWhenEmpty = true := by decide
  rw [hflag]
  unfold round send
  simp only [Bool.not_true, Bool.and_false, Bool.false_eq_true, if_false]
  exact receive_matches_sender p h hp c

/-- kept visible: were the empty digest not sent, a peer that missed the removal would list the instances of a
connection that is gone for ever -/
theorem unsent_empty_digest_leaves_ghosts :
    ∃ (p : Peer), PeerOK p ∧ (round false [] p).recorded 7 ≠ (lookup [] 7).getD [] :=
  ⟨⟨[7], fun c => if c = 7 then [1] else []⟩, by intro c hc; by_cases h : c = 7 <;> simp_all, by decide⟩

example : PeerOK ⟨[7, 8], fun c => if c = 7 then [1, 2] else []⟩ := by
  intro c hc; by_cases h : c = 7 <;> simp_all
example : (receive ⟨[7, 8], fun c => if c = 7 then [1, 2] else []⟩ [(8, [3])]).recorded 7 = [] ∧
    (receive ⟨[7, 8], fun c => if c = 7 then [1, 2] else []⟩ [(8, [3])]).recorded 8 = [3] := by decide

end RNacos.Props.C15
