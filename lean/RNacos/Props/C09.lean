import RNacos.Model.Config
/-!
# C09 — config store: last write wins, md5 matches content, listings match store

Model: `RNacos/Model/Config.lean`.  All theorems are for arbitrary op histories (publish with/without
type and description, same or different content, remove, full-value import, temporary values) over
arbitrary keys — by invariants preserved by every step.
-/
namespace RNacos.Props.C09
open RNacos RNacos.Config

/-- a value that came through the replicated log (not only a follower's temporary value) -/
def Applied (v : Value) : Prop := ¬ (v.tmp = true ∧ v.hist = [])

structure Inv (s : Store) : Prop where
  md5 : ∀ k v, AL.get? s.cache k = some v → v.md5 = v.content
  nodup : s.index.Nodup
  size : s.size = s.index.length
  listed_stored : ∀ k ∈ s.index, (AL.get? s.cache k).isSome = true
  -- only of an applied value: a follower's temporary value under a new key is stored and not listed (`setTmp`)
  applied_listed : ∀ k v, AL.get? s.cache k = some v → Applied v → k ∈ s.index

theorem inv_empty : Inv {} := by
  refine ⟨?_, by simp, rfl, ?_, ?_⟩ <;> simp

theorem inv_applyMark (s : Store) (m : Option Nat) (h : Inv s) : Inv (s.applyMark m) := by
  cases m <;> exact ⟨h.md5, h.nodup, h.size, h.listed_stored, h.applied_listed⟩

theorem applyMark_cache (s : Store) (m : Option Nat) : (s.applyMark m).cache = s.cache := by cases m <;> rfl

theorem inv_putCache (s : Store) (k : Key) (v : Value) (h : Inv s) (hm : v.md5 = v.content)
    (hl : Applied v → k ∈ s.index) : Inv (s.putCache k v) :=
  ⟨AL.forall_get?_set h.md5 hm, h.nodup, h.size,
    fun k' hk' => AL.isSome_get?_set _ _ _ _ (h.listed_stored k' hk'),
    AL.forall_get?_set (P := fun k v => Applied v → k ∈ s.index) h.applied_listed hl⟩

theorem indexInsert_cache (s : Store) (k : Key) : (s.indexInsert k).cache = s.cache := by
  unfold Store.indexInsert; split <;> rfl

theorem put_insert_comm (s : Store) (k : Key) (v : Value) :
    (s.putCache k v).indexInsert k = (s.indexInsert k).putCache k v := by
  unfold Store.putCache Store.indexInsert
  by_cases hk : k ∈ s.index <;> simp [hk]

/-- Neither half keeps `Inv` alone when the key is new: listed and not stored breaks `listed_stored`, stored (an applied
value) and not listed breaks `applied_listed`. -/
theorem inv_insert_put (s : Store) (k : Key) (v : Value) (h : Inv s) (hm : v.md5 = v.content) :
    Inv ((s.indexInsert k).putCache k v) := by
  by_cases hk : k ∈ s.index
  · rw [Store.indexInsert, if_pos hk]; exact inv_putCache s k v h hm (fun _ => hk)
  · rw [Store.indexInsert, if_neg hk]
    refine ⟨AL.forall_get?_set h.md5 hm, List.nodup_cons.mpr ⟨hk, h.nodup⟩, congrArg (· + 1) h.size, ?_,
      AL.forall_get?_set (P := fun k' v' => Applied v' → k' ∈ k :: s.index)
        (fun k' v' hv ha => List.mem_cons_of_mem _ (h.applied_listed k' v' hv ha)) (fun _ => List.mem_cons_self)⟩
    intro k' hk'
    rcases List.mem_cons.mp hk' with rfl | hk'
    · exact congrArg Option.isSome (AL.get?_set_same _ _ _)
    · exact AL.isSome_get?_set _ _ _ _ (h.listed_stored k' hk')

theorem setTmp_cache (s : Store) (k : Key) (val : String) (now : Int) :
    ∃ v, (s.setTmp k val now).cache = AL.set s.cache k v ∧ v.tmp = true := by
  unfold Store.setTmp
  split <;> exact ⟨_, rfl, rfl⟩

theorem inv_setTmp (s : Store) (k : Key) (val : String) (now : Int) (h : Inv s) : Inv (s.setTmp k val now) := by
  unfold Store.setTmp
  cases hg : AL.get? s.cache k with
  | none => exact inv_putCache s k _ h rfl (fun ha => absurd ⟨rfl, rfl⟩ ha)
  | some v => exact inv_putCache s k _ h rfl fun ha => h.applied_listed k v hg fun ⟨_, hh⟩ => ha ⟨rfl, hh⟩

theorem delConfig_eq (s : Store) (k : Key) :
    s.delConfig k = { s with cache := AL.erase s.cache k, index := s.index.erase k,
                             size := if k ∈ s.index then s.size - 1 else s.size } := by
  unfold Store.delConfig Store.indexRemove
  split
  · rfl
  · rename_i hk; simp [List.erase_of_not_mem hk]

theorem inv_delConfig (s : Store) (k : Key) (h : Inv s) : Inv (s.delConfig k) := by
  rw [delConfig_eq]
  refine ⟨fun k' v' hv => h.md5 k' v' (AL.get?_erase_some hv).2, h.nodup.erase k, ?_, ?_, ?_⟩
  · dsimp only
    rw [h.size, List.length_erase]
  · intro k' hk'
    obtain ⟨hne, hmem⟩ := (List.Nodup.mem_erase_iff h.nodup).mp hk'
    exact (congrArg Option.isSome (AL.get?_erase_other _ _ _ (Ne.symm hne))).trans (h.listed_stored k' hmem)
  · intro k' v' hv ha
    obtain ⟨hne, hv⟩ := AL.get?_erase_some hv
    exact (List.mem_erase_of_ne hne).mpr (h.applied_listed k' v' hv ha)

theorem setFull_cache (s : Store) (k : Key) (c : String) (hist : List Hist) (t d : Option String) (l : Option Nat) :
    (s.setFull k c hist t d l).cache = AL.set s.cache k (Value.ofImport c hist t d) := by
  rw [Store.setFull, applyMark_cache, Store.putCache, indexInsert_cache]

theorem inv_setFull (s : Store) (k : Key) (c : String) (hist : List Hist) (t d : Option String)
    (l : Option Nat) (h : Inv s) : Inv (s.setFull k c hist t d l) :=
  inv_applyMark _ l (inv_insert_put s k _ h rfl)

/-! ### `set_config` in one piece

What a publish does to the value under its key depends on that value alone; the store is only the place it is put. -/

structure Published where
  value : Value
  notify : Bool
  /-- `tenant_index.insert_config` is called: skipped only over a value that is an applied one (`published_insert`) -/
  insert : Bool

def published (old : Option Value) (p : SetParam) : Published :=
  match old with
  | some v =>
    if v.tmp = false ∧ v.md5 = p.value then ⟨v.refresh p.ctype p.desc, false, false⟩
    else ⟨(v.refresh p.ctype p.desc).update p.value p.hid p.time p.user, true, v.hist.isEmpty⟩
  | none => ⟨(Value.init p.value p.hid p.time p.user).refresh p.ctype p.desc, true, true⟩

theorem setConfig_eq (s : Store) (p : SetParam) :
    s.setConfig p =
      ((if (published (s.get p.key) p).insert then (s.applyMark p.mark).indexInsert p.key else s.applyMark p.mark).putCache
        p.key (published (s.get p.key) p).value, (published (s.get p.key) p).notify) := by
  rw [Store.setConfig, applyMark_cache, Store.get]
  cases AL.get? s.cache p.key with
  -- for a new key the code stores first and lists second
  | none => exact Prod.ext (put_insert_comm _ _ _) rfl
  | some v =>
    simp only [published, Value.refresh, Bool.and_eq_true, Bool.not_eq_true', beq_iff_eq]
    split <;> rfl

theorem published_insert (old : Option Value) (p : SetParam) (h : (published old p).insert = false) :
    ∃ v, old = some v ∧ Applied v := by
  cases old with
  | none => cases h
  | some v => exact ⟨v, rfl, fun ⟨h1, h2⟩ => by simp [published, h1, h2] at h⟩

theorem published_quiet (old : Option Value) (p : SetParam) (h : (published old p).notify = false) :
    ∃ v, old = some v ∧ (published old p).value = v.refresh p.ctype p.desc := by
  cases old with
  | none => cases h
  | some v =>
    refine ⟨v, rfl, ?_⟩
    rw [published] at h ⊢
    split at h
    · next hun => rw [if_pos hun]
    · cases h

theorem published_value (old : Option Value) (p : SetParam) (hold : ∀ v, old = some v → v.md5 = v.content) :
    (published old p).value.content = p.value ∧ (published old p).value.md5 = p.value ∧
      (published old p).value.tmp = false := by
  unfold published
  cases old with
  | none => exact ⟨rfl, rfl, rfl⟩
  | some v =>
    simp only
    split
    · next hun => exact ⟨(hold v rfl).symm.trans hun.2, hun.2, hun.1⟩
    · exact ⟨rfl, rfl, rfl⟩

theorem setConfig_snd (s : Store) (p : SetParam) : (s.setConfig p).2 = (published (s.get p.key) p).notify := by
  rw [setConfig_eq]

theorem setConfig_cache (s : Store) (p : SetParam) :
    (s.setConfig p).1.cache = AL.set s.cache p.key (published (s.get p.key) p).value := by
  rw [setConfig_eq]
  dsimp only [Store.putCache]
  split <;> simp only [indexInsert_cache, applyMark_cache]

theorem get_setConfig (s : Store) (p : SetParam) :
    (s.setConfig p).1.get p.key = some (published (s.get p.key) p).value := by
  rw [Store.get, setConfig_cache, AL.get?_set_same]

theorem inv_setConfig (s : Store) (p : SetParam) (h : Inv s) : Inv (s.setConfig p).1 := by
  have h' := inv_applyMark s p.mark h
  obtain ⟨h1, h2, _⟩ := published_value (s.get p.key) p (h.md5 p.key)
  have hm := h2.trans h1.symm
  rw [setConfig_eq]
  dsimp only
  split
  · exact inv_insert_put _ _ _ h' hm
  · next hins =>
    obtain ⟨v, hg, ha⟩ := published_insert _ p (Bool.eq_false_iff.mpr hins)
    exact inv_putCache _ _ _ h' hm fun _ => h'.applied_listed p.key v (by rw [applyMark_cache]; exact hg) ha

theorem inv_step (s : Store) (op : Op) (h : Inv s) : Inv (s.step op) := by
  cases op with
  | add p => exact inv_setConfig s p h
  | remove k => exact inv_delConfig s k h
  | full k c hs t d l => exact inv_setFull s k c hs t d l h
  | tmp k v n => exact inv_setTmp s k v n h

theorem inv_run (ops : List Op) (s : Store) (h : Inv s) : Inv (Store.run s ops) :=
  List.foldlRecOn ops _ h fun s h op _ => inv_step s op h

/-- **the invariant holds in every reachable state** -/
theorem inv_reachable (ops : List Op) : Inv (Store.run {} ops) := inv_run ops {} inv_empty

/-- **md5 matches content** for every stored value in every reachable state -/
theorem md5_matches (ops : List Op) (k : Key) (v : Value) (h : (Store.run {} ops).get k = some v) :
    v.md5 = v.content := (inv_reachable ops).md5 k v h

/-- **every stored (applied) configuration is listed, exactly once; the counter equals the listing** -/
theorem listed_exactly_once (ops : List Op) :
    (Store.run {} ops).index.Nodup ∧ (Store.run {} ops).size = (Store.run {} ops).index.length ∧
    ∀ k v, (Store.run {} ops).get k = some v → Applied v → k ∈ (Store.run {} ops).index :=
  have h := inv_reachable ops
  ⟨h.nodup, h.size, h.applied_listed⟩

/-- **removed ones never appear**: whatever is listed is stored -/
theorem listed_is_stored (ops : List Op) (k : Key) (h : k ∈ (Store.run {} ops).index) :
    ((Store.run {} ops).get k).isSome = true := (inv_reachable ops).listed_stored k h

/-- **last write wins (publish)**: right after a publish is applied a read returns exactly the
published content and its md5, as a stored (non-temporary) value -/
theorem get_after_publish (s : Store) (hinv : Inv s) (p : SetParam) :
    ∃ v, (s.setConfig p).1.get p.key = some v ∧ v.content = p.value ∧ v.md5 = p.value ∧ v.tmp = false :=
  ⟨_, get_setConfig s p, published_value (s.get p.key) p (hinv.md5 p.key)⟩

/-- type and description: the ones given with the publish, otherwise the previous ones (sticky) -/
theorem type_desc_after_publish (s : Store) (p : SetParam) :
    ∃ v, (s.setConfig p).1.get p.key = some v ∧
      v.ctype = (match p.ctype with | some t => some t | none => (s.get p.key).bind (·.ctype)) ∧
      v.desc = (match p.desc with | some d => some d | none => (s.get p.key).bind (·.desc)) := by
  refine ⟨_, get_setConfig s p, ?_⟩
  unfold published
  cases s.get p.key with
  | none => exact ⟨rfl, rfl⟩
  | some v => simp only; split <;> exact ⟨rfl, rfl⟩

/-- **not-found after a remove** -/
theorem get_after_remove (s : Store) (k : Key) : (s.delConfig k).get k = none := by
  rw [delConfig_eq]; exact AL.get?_erase_same ..

/-- operations on one key never change what another key reads (frame) -/
theorem get_other_key (s : Store) (op : Op) (k : Key)
    (hk : match op with | .add p => p.key ≠ k | .remove k' => k' ≠ k | .full k' .. => k' ≠ k | .tmp k' .. => k' ≠ k) :
    (s.step op).get k = s.get k := by
  unfold Store.get
  cases op with
  | add p => rw [Store.step, setConfig_cache]; exact AL.get?_set_other _ _ _ _ hk
  | remove k' => rw [Store.step, delConfig_eq]; exact AL.get?_erase_other _ _ _ hk
  | full k' c hs t d l => rw [Store.step, setFull_cache]; exact AL.get?_set_other _ _ _ _ hk
  | tmp k' v n =>
    obtain ⟨w, hw, -⟩ := setTmp_cache s k' v n
    rw [Store.step, hw]; exact AL.get?_set_other _ _ _ _ hk

theorem flatten_pages {α : Type} (l : List α) (lim n : Nat) :
    ((List.range n).map fun i => (l.drop (i * lim)).take lim).flatten = l.take (n * lim) := by
  induction n with
  | zero => simp
  | succ n ih => rw [List.range_succ, List.map_append, List.flatten_append, ih, Nat.succ_mul, List.take_add]; simp

/-- **pages partition the listing and every page reports the same total** -/
theorem pages_partition (s : Store) (q : Query) (n : Nat) :
    ((List.range n).map fun i => (s.queryPage { q with offset := i * q.limit }).2).flatten =
      (s.listing q).take (n * q.limit) ∧
    ∀ i, (s.queryPage { q with offset := i * q.limit }).1 = (s.listing q).length :=
  ⟨flatten_pages (s.listing q) q.limit n, fun _ => rfl⟩

/-- every listed page entry is a listed key of the right tenant (no invented or foreign entries) -/
theorem page_entries_listed (s : Store) (q : Query) (k : Key) (h : k ∈ (s.queryPage q).2) :
    k ∈ s.listing q := by
  unfold Store.queryPage at h
  exact List.mem_of_mem_drop (List.mem_of_mem_take h)

/-- **history: newest first**, every publish that changes the content adds exactly one entry at the
front of the page, older entries keep their order; bounded by 100 -/
theorem history_after_change (v : Value) (c : String) (hid : Nat) (t : Int) (u : Option String) :
    (v.update c hid t u).hist.reverse.head? = some ⟨hid, c, t, u⟩ ∧
    (v.hist.length < 100 → (v.update c hid t u).hist = v.hist ++ [⟨hid, c, t, u⟩]) ∧
    (v.hist.length ≤ 100 → (v.update c hid t u).hist.length ≤ 100) := by
  unfold Value.update
  refine ⟨by simp, fun h => by rw [if_neg (Nat.not_le.mpr h)], fun h => ?_⟩
  simp only [List.length_append, List.length_singleton]
  split
  · rw [List.length_drop]; omega
  · omega

/-- `historyPage` returns the stored history reversed (newest first), cut by offset/limit, with the
full length as total -/
theorem history_page_spec (s : Store) (k : Key) (v : Value) (hg : s.get k = some v) (o l : Nat) :
    s.historyPage k (some o) (some l) = (v.hist.length, (v.hist.reverse.drop o).take l) := by
  unfold Store.historyPage; unfold Store.get at hg; rw [hg]

/-- a publish with unchanged content adds no history entry and notifies nobody -/
theorem history_unchanged (s : Store) (p : SetParam) (v : Value) (hg : s.get p.key = some v)
    (ht : v.tmp = false) (hm : v.md5 = p.value) :
    ∃ v', (s.setConfig p).1.get p.key = some v' ∧ v'.hist = v.hist ∧ (s.setConfig p).2 = false := by
  refine ⟨_, get_setConfig s p, ?_⟩
  rw [setConfig_snd, hg, published, if_pos ⟨ht, hm⟩]
  exact ⟨rfl, rfl⟩

-- a follower's temporary value is stored without being listed: `applied_listed` needs its `Applied`
example : ∃ ops : List Op, (Store.run {} ops).index.length = 1 ∧ (Store.run {} ops).cache.length = 2 :=
  ⟨[.add ⟨⟨"d", "g", "t"⟩, "v1", none, none, 1, some 100, 5, none⟩, .tmp ⟨"d2", "g", "t"⟩ "x" 7], by decide⟩

end RNacos.Props.C09
