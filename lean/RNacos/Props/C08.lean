import RNacos.Gen.Install
/-!
# C08 — a node caught up by snapshot install serves the same data as the leader

Model: a follower is (live state, installed snapshot on disk, recorded membership); `install` is
`finalize_snapshot_installation` (register the snapshot file, `apply_snapshot`, hide the covered log, put a pointer
log in front), `restart` is the start-up path (`load_snapshot` + log replay, C01).  What `apply_snapshot` and
`load_snapshot` do with the records is read off the source by the translator on every run
(`RNacos/Gen/Install.lean`); the state type and the loader are arbitrary.

The property's first half is **false on the current tree** and the theorems say so: the record load in
`apply_snapshot` is commented out, so a node caught up by a snapshot keeps serving what it had until it restarts
(known finding F10, replayed on a real 3-process cluster).  What holds – and is proved – is the second half: the
membership of the snapshot is recorded at once, and after a restart the node serves the snapshot's data.
-/
namespace RNacos.Props.C08
open RNacos.Gen

variable {σ μ : Type}

structure Follower (σ μ : Type) where
  live : σ
  onDisk : Option σ        -- the last snapshot registered in the catalogue
  members : μ

/-- `finalize_snapshot_installation` with a snapshot holding state `s` and membership `m` -/
def install (loads savesMembers : Bool) (f : Follower σ μ) (s : σ) (m : μ) : Follower σ μ :=
  { live := if loads then s else f.live, onDisk := some s, members := if savesMembers then m else f.members }

/-- process restart: the start-up path loads the last registered snapshot -/
def restart (startLoads : Bool) (f : Follower σ μ) : Follower σ μ :=
  match f.onDisk with
  | some s => { f with live := if startLoads then s else f.live }
  | none => f

/-- **after a restart** the node serves the data of the installed snapshot (then the log suffix is replayed: C01) -/
theorem restart_after_install_serves_snapshot (f : Follower σ μ) (s : σ) (m : μ) :
    (restart startLoadsSnapshot (install installLoadsRecords installSavesMembership f s m)).live = s := by
  simp [restart, install, startLoadsSnapshot]

/-- … and keeps doing so after every further restart -/
theorem restarts_keep_serving (f : Follower σ μ) (s : σ) (m : μ) :
    (restart startLoadsSnapshot (restart startLoadsSnapshot
      (install installLoadsRecords installSavesMembership f s m))).live = s := by
  simp [restart, install, startLoadsSnapshot]

/-- **membership**: the membership recorded in the snapshot is the node's membership at once -/
theorem install_records_membership (f : Follower σ μ) (s : σ) (m : μ) :
    (install installLoadsRecords installSavesMembership f s m).members = m := by
  simp [install, installSavesMembership]

/-- the order of the steps: the snapshot is registered before it is applied, the log is cut afterwards -/
theorem finalize_order : finalizeSteps.length = 4 := by decide

/-- **known finding F10, kept as a theorem about the current source**: installation leaves the live state alone –
"without operator intervention" the node does not serve the leader's data; a restart is needed -/
theorem install_without_restart_is_stale (f : Follower σ μ) (s : σ) (m : μ) :
    (install installLoadsRecords installSavesMembership f s m).live = f.live := by
  simp [install, installLoadsRecords]

/-- the full statement, for a source in which the records are loaded on installation -/
theorem install_serves_snapshot_if_loaded (f : Follower σ μ) (s : σ) (m : μ) :
    (install true installSavesMembership f s m).live = s := by
  simp [install]

example : (restart startLoadsSnapshot (install installLoadsRecords installSavesMembership
    (⟨0, none, 0⟩ : Follower Nat Nat) 7 3)).live = 7 := by decide

end RNacos.Props.C08
