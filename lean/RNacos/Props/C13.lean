import RNacos.Lemmas.NamingSvc
/-!
# C13 — ephemeral HTTP instances expire without heartbeats, never while heart-beating

Model: `RNacos/Model/Naming.lean` (`Svc.timeCheck`, the two time-out sets, `Inst.enableTimeout`).
Theorems are about one service and arbitrary contents of the two time-out sets (any number of instances,
any stale entries): what a time check at time `now` does to an instance, as a function of when it was
last heard of.  `ht = now - healthTimeout`, `ot = now - instanceTimeout`, `ot ≤ ht`.

*Partial*: the 2 s timer that drives the checks, and the propagation "and then everywhere", are runtime
(see C15); the instance taken over from a failed node is the open known finding F16c.
-/
namespace RNacos.Props.C13
open RNacos RNacos.Naming

/-! ## never while heart-beating -/

/-- **an instance whose last heartbeat is younger than the health time-out is neither marked unhealthy
nor removed by a time check** – whatever stale entries the time-out sets hold -/
theorem never_while_beating (s : Svc) (ht ot now : Int) (hle : ot ≤ ht) (key : ShortKey) (i : Inst)
    (hg : AL.get? s.insts key = some i) (hbeat : i.lastModified > ht) :
    AL.get? (s.timeCheck ht ot now).1.insts key = some i := by
  have hsk : ∀ limit, limit ≤ ht → s.skipTimeout key limit = true := fun limit hl => by
    rw [skipTimeout_eq, hg, Option.any_some, Bool.or_eq_true, decide_eq_true_eq]
    exact Or.inr (by omega)
  rw [get?_timeCheck, hsk ot hle, hsk ht (Int.le_refl _)]
  simpa using hg

/-- **persistent and gRPC-connected (and replicated) instances are never expired by the heartbeat clock** -/
theorem persistent_grpc_never_expire (s : Svc) (ht ot now : Int) (key : ShortKey) (i : Inst)
    (hg : AL.get? s.insts key = some i) (hn : i.ephemeral = false ∨ i.fromGrpc = true ∨ i.fromCluster > 0) :
    AL.get? (s.timeCheck ht ot now).1.insts key = some i := by
  apply timeCheck_keeps s ht ot now key i hg
  unfold Inst.enableTimeout
  rcases hn with h | h | h <;> simp [h]

/-! ## expiry without heartbeats -/

theorem mem_insertByTime {α : Type} (x a : Int × α) (l : List (Int × α)) :
    a ∈ insertByTime x l ↔ a = x ∨ a ∈ l := by
  induction l with
  | nil => simp [insertByTime]
  | cons y ys ih =>
    unfold insertByTime
    split
    · simp
    · simp only [List.mem_cons, ih]; exact or_left_comm

theorem mem_sortByTime {α : Type} (a : Int × α) (l : List (Int × α)) : a ∈ sortByTime l ↔ a ∈ l := by
  unfold sortByTime
  induction l with
  | nil => simp
  | cons y ys ih => simp only [List.foldr_cons, mem_insertByTime, ih, List.mem_cons]

theorem mem_toSplit {α : Type} (l : List (Int × α)) (now : Int) (a : α) :
    a ∈ (toSplit l now).1 ↔ ∃ t, (t, a) ∈ l ∧ t ≤ now := by
  simp [toSplit, mem_sortByTime]

/-- a silent instance: subject to the heartbeat clock and last heard of at or before `limit` -/
def Silent (i : Inst) (limit : Int) : Prop := i.enableTimeout = true ∧ i.lastModified ≤ limit

theorem not_skip_of_silent (s : Svc) (key : ShortKey) (i : Inst) (limit : Int)
    (hg : AL.get? s.insts key = some i) (hs : Silent i limit) : s.skipTimeout key limit = false := by
  rw [skipTimeout_eq, hg, Option.any_some, hs.1]
  simpa using hs.2

/-- **an instance that stopped heart-beating is reported unhealthy (or already removed) after the first
time check past the health time-out**, provided its last heartbeat armed the health time-out set (every
HTTP registration/heartbeat does: `update_arms`) -/
theorem unhealthy_after (s : Svc) (ht ot now : Int) (key : ShortKey) (i : Inst)
    (hg : AL.get? s.insts key = some i) (hs : Silent i ht) (harm : (i.lastModified, key) ∈ s.healthyTO) :
    AL.get? (s.timeCheck ht ot now).1.insts key = none ∨
    ∃ i', AL.get? (s.timeCheck ht ot now).1.insts key = some i' ∧ i'.healthy = false ∧
      i'.lastModified = i.lastModified := by
  rw [get?_timeCheck]
  split
  · exact Or.inl rfl
  · rw [if_pos ⟨(mem_toSplit _ _ _).2 ⟨_, harm, hs.2⟩, not_skip_of_silent s key i ht hg hs⟩, hg]
    exact Or.inr ⟨_, rfl, rfl, rfl⟩

/-- **an unhealthy instance that stays silent is removed by the first time check past the instance
time-out**, provided it was queued when it became (or was registered) unhealthy (`markUnhealthy_arms`) -/
theorem removed_after (s : Svc) (ht ot now : Int) (key : ShortKey) (i : Inst)
    (hg : AL.get? s.insts key = some i) (hs : Silent i ot) (harm : (i.lastModified, key) ∈ s.unhealthyTO) :
    AL.get? (s.timeCheck ht ot now).1.insts key = none := by
  rw [get?_timeCheck, if_pos ⟨(mem_toSplit _ _ _).2 ⟨_, harm, hs.2⟩, not_skip_of_silent s key i ot hg hs⟩]

/-! ## the time-out sets are armed where the theorems above need it -/

/-- every HTTP registration / heartbeat handled by the responsible node arms the health time-out -/
theorem update_arms (s : Svc) (inst : Inst) (tag : Option Tag) :
    ∀ fin, AL.get? (s.updateInstance inst tag false).1.insts inst.short = some fin → fin.enableTimeout = true →
      (fin.lastModified, inst.short) ∈ (s.updateInstance inst tag false).1.healthyTO := by
  intro fin hfin hen
  rw [get?_updateInstance, if_pos rfl] at hfin
  cases hfin
  rw [updateInstance_healthyTO, hen]
  simp

/-- marking an instance unhealthy queues it for removal – also when it already was unhealthy
(registered that way; fixed finding F16a) -/
theorem markUnhealthy_arms (s : Svc) (key : ShortKey) (i : Inst) (hg : AL.get? s.insts key = some i) :
    (i.lastModified, key) ∈ (s.markUnhealthy key).unhealthyTO := by
  unfold Svc.markUnhealthy
  rw [hg]
  simp only
  split <;> simp

/-- kept visible (open finding F16c): an HTTP instance replicated from another node is not subject to the
heartbeat clock even after this node has taken the key over – `refreshRange` re-arms the set, the flag
`fromCluster` stays, so `enableTimeout` stays false and the instance never expires without a new heartbeat -/
theorem taken_over_never_expires (s : Svc) (ht ot now : Int) (key : ShortKey) (i : Inst)
    (hg : AL.get? s.insts key = some i) (hfc : i.fromCluster > 0) :
    AL.get? (s.refreshRange.timeCheck ht ot now).1.insts key = some i :=
  persistent_grpc_never_expire s.refreshRange ht ot now key i hg (Or.inr (Or.inr hfc))

/-! ## non-vacuity: a silent instance goes unhealthy, then away -/
example :
    let i : Inst := ⟨"1.1.1.1", 80, 1000, true, true, true, false, 0, "", 1000⟩
    let s0 : Svc := (({} : Svc).updateInstance i none false).1
    let s1 := (s0.timeCheck (20000 - 18000) (20000 - 33000) 20000).1
    let s2 := (s1.timeCheck (40000 - 18000) (40000 - 33000) 40000).1
    (AL.get? s1.insts i.short).map (·.healthy) = some false ∧ AL.get? s2.insts i.short = none := by
  decide


/-- **a heartbeat never changes what a registered instance is**: `PUT /instance/beat` sends an update tag with nothing
set (and `ephemeral = true` unless the client says otherwise); for a registered instance the stored persistence class,
enabled flag and weight stay those of the registration - so a persistent instance that receives beats stays outside the
heartbeat clock (`persistent_grpc_never_expire`), and the persistent set is not touched -/
theorem beat_keeps_persistence (s : Svc) (inst old : Inst) (t : Tag) (ht : t.isNone = true)
    (hold : AL.get? s.insts inst.short = some old) (fromSync : Bool) :
    ∃ fin, AL.get? (s.updateInstance inst (some t) fromSync).1.insts inst.short = some fin ∧
      fin.ephemeral = old.ephemeral ∧ fin.enabled = old.enabled ∧ fin.weight = old.weight ∧
      (s.updateInstance inst (some t) fromSync).1.perpetual = s.perpetual ∧
      (s.updateInstance inst (some t) fromSync).2.1 = UpdType.updateTime := by
  have ha : ∀ i, applyTag i old (some t) =
      ({ i with enabled := old.enabled, ephemeral := old.ephemeral, weight := old.weight }, UpdType.updateTime) := by
    simp [applyTag, ht]
  have hm := merge_of_some hold (some t)
  rw [ha] at hm
  refine ⟨_, by rw [get?_updateInstance, if_pos rfl], by rw [hm], by rw [hm], by rw [hm], ?_, ?_⟩
  · rw [updateInstance_fst, hold, replaceInst_perpetual, hm]
    exact if_pos rfl
  · unfold Svc.updateInstance; rw [hold]
    exact congrArg Prod.snd (ha _)

/-- the tag `beat_instance` (`PUT /instance/beat`, src/openapi/naming/instance.rs) sends satisfies the hypothesis `ht`
of `beat_keeps_persistence` -/
example : ({ weight := false, metadata := false, enabled := false, ephemeral := false, fromUpdate := false } : Tag).isNone = true := by
  decide

/-! ## the host probe of persistent instances -/

/-- **a failed host probe does not hand a persistent (or gRPC-connected, or replicated) instance to the heartbeat
clock**: the probe (`update_perpetual_health`, the health check of persistent instances) marks it unhealthy and queues
its address in the removal set; however old its last modification is, no later time check removes it -/
theorem probed_persistent_never_expires (s : Svc) (ht ot now : Int) (key : ShortKey) (i : Inst)
    (hg : AL.get? s.insts key = some i) (hn : i.ephemeral = false ∨ i.fromGrpc = true ∨ i.fromCluster > 0) :
    AL.get? ((s.markUnhealthy key).timeCheck ht ot now).1.insts key = some { i with healthy := false } ∧
    (i.lastModified, key) ∈ (s.markUnhealthy key).unhealthyTO :=
  ⟨persistent_grpc_never_expire _ ht ot now key _ (by rw [get?_markUnhealthy, if_pos rfl, hg]; rfl) hn,
    markUnhealthy_arms s key i hg⟩

/-- a successful probe brings a persistent instance back to healthy and touches nothing else at the address -/
theorem probe_ok_instance (s : Svc) (key : ShortKey) (i : Inst) (hg : AL.get? s.insts key = some i) :
    AL.get? (s.probeValid key).insts key = some (if !i.healthy && !i.ephemeral then { i with healthy := true } else i) := by
  rw [get?_probeValid, if_pos rfl, hg]; rfl

end RNacos.Props.C13
