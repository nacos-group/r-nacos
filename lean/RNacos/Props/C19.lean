import RNacos.Model.Sequence
/-!
# C19 — issued sequence ids are unique and increasing across restarts and nodes

Models: `RNacos/Model/Sequence.lean`.  Three layers, three groups of theorems:
1. `SequenceDbManager` (replicated): ranges handed out for a key are disjoint and increasing, also when
   a log suffix is applied a second time after a restart (ids are skipped, never repeated);
2. `SeqGroup` (per node double buffer): whatever the interleaving of range arrivals and id requests,
   the ids handed out are pairwise distinct, provided the arriving ranges are disjoint (layer 1);
3. `SimpleSequence` (config history ids): in a cluster where the high-water mark travels with the
   committed request, ids are strictly increasing across leader changes, restarts, compactions and restarts
   from an earlier snapshot plus replay.
-/
namespace RNacos.Props.C19
open RNacos.Sequence RNacos

/-! ## 1. the replicated counters -/

/-- the key a request is for (the `match` inside `SeqDb.run`) -/
def keyOf : DbOp → String
  | .nextId k => k | .nextRange k _ => k | .setId k _ => k | .removeId k => k

/-- the op is an explicit reset of key `k` -/
def resets (k : String) : DbOp → Bool
  | .setId k' _ => k' == k
  | .removeId k' => k' == k
  | _ => false

theorem next_set (db : SeqDb) (k k2 : String) (v : Nat) :
    SeqDb.next (AL.set db k v) k2 = if k = k2 then v else db.next k2 := by
  rw [SeqDb.next, AL.get?_set]; split <;> rfl

theorem next_erase (db : SeqDb) (k k2 : String) :
    SeqDb.next (AL.erase db k) k2 = if k = k2 then 1 else db.next k2 := by
  rw [SeqDb.next, AL.get?_erase]; split <;> rfl

theorem step_next (db : SeqDb) (k : String) (op : DbOp) (hr : resets k op = false) :
    db.next k ≤ (db.step op).1.next k ∧
    (keyOf op = k → (db.step op).2.1 = db.next k ∧ (db.step op).2.1 + (db.step op).2.2 = (db.step op).1.next k) := by
  cases op with
  | nextId k' => simp only [SeqDb.step, keyOf, next_set]; by_cases h : k' = k <;> simp [h]
  | nextRange k' st => simp only [SeqDb.step, keyOf, next_set]; by_cases h : k' = k <;> simp [h]
  | setId k' v =>
    have h : k' ≠ k := by simpa [resets] using hr
    simp [SeqDb.step, keyOf, h, next_set]
  | removeId k' =>
    have h : k' ≠ k := by simpa [resets] using hr
    simp [SeqDb.step, keyOf, h, next_erase]

theorem run_cons (db : SeqDb) (op : DbOp) (rest : List DbOp) :
    SeqDb.run db (op :: rest) =
      ((SeqDb.run (db.step op).1 rest).1,
        if (db.step op).2.2 = 0 then (SeqDb.run (db.step op).1 rest).2
        else (keyOf op, (db.step op).2.1, (db.step op).2.2) :: (SeqDb.run (db.step op).1 rest).2) := by
  cases op <;> rfl

/-- `run_cons` without its case split: an empty hand-out (length 0) put in front of the trace does no harm to
`run_bounds`, whose claims about the trace (a bound on every entry, a `Pairwise`) carry over to a sublist. -/
theorem run_cons_sublist (db : SeqDb) (op : DbOp) (rest : List DbOp) :
    (SeqDb.run db (op :: rest)).2.Sublist
      ((keyOf op, (db.step op).2.1, (db.step op).2.2) :: (SeqDb.run (db.step op).1 rest).2) := by
  rw [run_cons]
  dsimp only
  split
  · exact List.sublist_cons_self ..
  · exact .refl _

theorem run_append (db : SeqDb) (ops ops2 : List DbOp) :
    SeqDb.run db (ops ++ ops2) =
      ((SeqDb.run (SeqDb.run db ops).1 ops2).1, (SeqDb.run db ops).2 ++ (SeqDb.run (SeqDb.run db ops).1 ops2).2) := by
  induction ops generalizing db with
  | nil => rfl
  | cons op rest ih =>
    rw [List.cons_append, run_cons, run_cons, ih]
    dsimp only
    split <;> rfl

/-- The `Pairwise` at `op :: rest` needs the lower bound for the hand-outs of `rest`. -/
theorem run_bounds (k : String) (ops : List DbOp) (db : SeqDb) (hnr : ∀ op ∈ ops, resets k op = false) :
    (∀ e ∈ (SeqDb.run db ops).2, e.1 = k → db.next k ≤ e.2.1) ∧
    List.Pairwise (fun e1 e2 => e1.1 = k → e2.1 = k → e1.2.1 + e1.2.2 ≤ e2.2.1) (SeqDb.run db ops).2 := by
  induction ops generalizing db with
  | nil => exact ⟨(fun _ h => nomatch h), .nil⟩
  | cons op rest ih =>
    obtain ⟨hle, h0⟩ := step_next db k op (hnr op List.mem_cons_self)
    obtain ⟨i2, i3⟩ := ih (db.step op).1 fun o ho => hnr o (List.mem_cons_of_mem _ ho)
    have e2 := run_cons_sublist db op rest
    refine ⟨fun e he hek => ?_,
      (List.pairwise_cons.mpr ⟨fun e he hk1 hk2 => (h0 hk1).2 ▸ i2 e he hk2, i3⟩).sublist e2⟩
    rcases List.mem_cons.mp (e2.subset he) with rfl | he
    · exact Nat.le_of_eq (h0 hek).1.symm
    · exact Nat.le_trans hle (i2 e he hek)

/-- **Ranges handed out for a key never overlap and only move upwards** as long as the key is not
explicitly reset (`SetId`/`RemoveId`): every earlier hand-out ends at or before the start of every
later one. -/
theorem db_ranges_disjoint_increasing (k : String) : ∀ (ops : List DbOp) (db : SeqDb),
    (∀ op ∈ ops, resets k op = false) →
    List.Pairwise (fun e1 e2 => e1.1 = k → e2.1 = k → e1.2.1 + e1.2.2 ≤ e2.2.1) (SeqDb.run db ops).2 :=
  fun ops db h => (run_bounds k ops db h).2

/-- **Applying a log suffix a second time after a restart skips ids but never repeats one**: every
hand-out of the first run ends at or before the start of every hand-out of any continuation. -/
theorem db_replay_never_repeats (k : String) (ops ops2 : List DbOp) (db : SeqDb)
    (h1 : ∀ op ∈ ops, resets k op = false) (h2 : ∀ op ∈ ops2, resets k op = false) :
    ∀ e1 ∈ (SeqDb.run db ops).2, ∀ e2 ∈ (SeqDb.run (SeqDb.run db ops).1 ops2).2,
      e1.1 = k → e2.1 = k → e1.2.1 + e1.2.2 ≤ e2.2.1 := by
  -- the continuation is the rest of one run
  have h := db_ranges_disjoint_increasing k (ops ++ ops2) db (List.forall_mem_append.2 ⟨h1, h2⟩)
  rw [run_append] at h
  exact (List.pairwise_append.1 h).2.2

/-- the first id of a fresh key is 1 and ids are handed out one by one (sanity / non-vacuity) -/
example : (SeqDb.run [] [.nextId "a", .nextRange "a" 100, .nextId "b", .nextId "a"]).2 =
    [("a", 1, 1), ("a", 2, 100), ("b", 1, 1), ("a", 102, 1)] := by decide

/-! ## 2. the per-node double buffer

The ids handed out so far, followed by those the two buffers still hold, form one list. A request moves the head of a
buffer's part to the end of the handed-out part: the list is permuted. An arriving range replaces one buffer's part by
ids that are new. So the list never holds an id twice, and neither does its first part. -/

/-- the ids a buffer can still hand out, in the order in which it will -/
def ids (r : SeqRange) : List Nat := (List.range' r.start r.len).drop r.cur

/-- the ids a node can still hand out: those of both buffers -/
def left (g : SeqGroup) : List Nat := ids g.a ++ ids g.b

theorem nextId_ids (r : SeqRange) : r.nextId.1.toList ++ ids r.nextId.2 = ids r := by
  unfold SeqRange.nextId
  split
  · rfl
  · rename_i h
    have hl : r.cur < (List.range' r.start r.len).length := by rw [List.length_range']; exact Nat.lt_of_not_ge h
    unfold ids; rw [List.drop_eq_getElem_cons hl, List.getElem_range', Nat.one_mul]; rfl

theorem doNext_left (g : SeqGroup) : (g.doNext.1.toList ++ left g.doNext.2).Perm (left g) := by
  unfold SeqGroup.doNext left
  split
  · rw [← nextId_ids g.a, List.append_assoc]
  · rw [← nextId_ids g.b]; exact List.perm_append_comm_assoc ..

theorem nextId_left (g : SeqGroup) : (g.nextId.1.toList ++ left g.nextId.2).Perm (left g) := by
  have h := doNext_left g
  unfold SeqGroup.nextId
  split
  · next heq => rwa [heq] at h
  · next heq => rw [heq] at h; exact (doNext_left _).trans h

/-- `kept`: the buffer that `apply_range` does not overwrite. The ids the overwritten one still held are skipped, hence
a `Sublist` of `left g` and not all of it. -/
theorem applyRange_left (g : SeqGroup) (s l : Nat) :
    ∃ kept, kept.Sublist (left g) ∧ (left (g.applyRange s l)).Perm (List.range' s l ++ kept) := by
  unfold SeqGroup.applyRange left
  split
  · exact ⟨_, List.sublist_append_right .., .refl _⟩
  · exact ⟨_, List.sublist_append_left .., List.perm_append_comm⟩

/-- `x` lies in one of the ranges received so far -/
def InRanges (ap : List (Nat × Nat)) (x : Nat) : Prop := ∃ p ∈ ap, p.1 ≤ x ∧ x < p.1 + p.2

/-- The invariant of `group_run_nodup`, on the ids handed out followed by those still held. That they lie in the ranges
received is what makes the ids of a non-overlapping arrival new (`Pool.fresh`). -/
def Pool (ap : List (Nat × Nat)) (l : List Nat) : Prop := l.Nodup ∧ ∀ x ∈ l, InRanges ap x

theorem Pool.sublist {ap : List (Nat × Nat)} {l₁ l₂ : List Nat} (hs : l₁.Sublist l₂) (h : Pool ap l₂) : Pool ap l₁ :=
  ⟨h.1.sublist hs, fun x hx => h.2 x (hs.subset hx)⟩

theorem Pool.perm {ap : List (Nat × Nat)} {l₁ l₂ : List Nat} (hp : l₁.Perm l₂) (h : Pool ap l₂) : Pool ap l₁ :=
  ⟨hp.nodup_iff.mpr h.1, fun x hx => h.2 x (hp.subset hx)⟩

theorem Pool.fresh {ap : List (Nat × Nat)} {l : List Nat} (s n : Nat) (h : Pool ap l)
    (hd : ∀ x, s ≤ x → x < s + n → ¬ InRanges ap x) : Pool ((s, n) :: ap) (List.range' s n ++ l) := by
  refine ⟨List.nodup_append.mpr ⟨List.nodup_range' .., h.1, ?_⟩, ?_⟩
  · intro x hx y hy e
    obtain ⟨h1, h2⟩ := List.mem_range'_1.mp hx
    exact hd x h1 h2 (e ▸ h.2 y hy)
  · intro x hx
    rcases List.mem_append.mp hx with hx | hx
    · exact ⟨_, List.mem_cons_self, List.mem_range'_1.mp hx⟩
    · obtain ⟨p, hp, hpx⟩ := h.2 x hx
      exact ⟨p, List.mem_cons_of_mem _ hp, hpx⟩

/-- the ranges that arrive never overlap anything that arrived before (guaranteed by layer 1) -/
def OpsOK : List (Nat × Nat) → List GOp → Prop
  | _, [] => True
  | ap, .next :: rest => OpsOK ap rest
  | ap, .apply s l :: rest => (∀ x, s ≤ x → x < s + l → ¬ InRanges ap x) ∧ OpsOK ((s, l) :: ap) rest

theorem run_next (g : SeqGroup) (rest : List GOp) :
    (g.run (.next :: rest)).2 = g.nextId.1.toList ++ (g.nextId.2.run rest).2 := by
  rw [SeqGroup.run]; rcases g.nextId with ⟨_ | x, g1⟩ <;> rfl

theorem group_run_nodup (ops : List GOp) (g : SeqGroup) (ap : List (Nat × Nat)) (iss : List Nat)
    (h : Pool ap (iss ++ left g)) (hok : OpsOK ap ops) : (iss ++ (g.run ops).2).Nodup := by
  induction ops generalizing g ap iss with
  | nil => rw [SeqGroup.run, List.append_nil]; exact (h.sublist (List.sublist_append_left ..)).1
  | cons op rest ih =>
    cases op with
    | next =>
      rw [run_next, ← List.append_assoc]
      refine ih _ ap _ (h.perm ?_) hok
      rw [List.append_assoc]
      exact (nextId_left g).append_left iss
    | apply s l =>
      obtain ⟨kept, hsub, hperm⟩ := applyRange_left g s l
      refine ih _ _ iss (Pool.perm ((hperm.append_left iss).trans (List.perm_append_comm_assoc ..)) ?_) hok.2
      exact (h.sublist (hsub.append_left iss)).fresh s l hok.1

/-- **Ids handed out by a node's `SeqGroup` are pairwise distinct under every interleaving of id
requests and range arrivals** (including arrivals that overwrite a still unused buffer – those ids
are skipped), provided the arriving ranges do not overlap. -/
theorem group_unique (ops : List GOp) (h : OpsOK [] ops) : (SeqGroup.new.run ops).2.Nodup :=
  group_run_nodup ops SeqGroup.new [] [] ⟨List.nodup_nil, fun _ hx => nomatch hx⟩ h

example : OpsOK [] [.next, .apply 1 100, .next, .next, .apply 101 100, .next] := by
  simp [OpsOK, InRanges]; omega

/-- reordered range arrivals can make a node's ids go **backwards** (they stay unique): the second
range arrives first and is used first. Kept visible: "increasing" holds per node only when responses
are delivered in request order. -/
theorem group_not_monotone_under_reordering :
    (SeqGroup.new.run [.apply 101 100, .next, .apply 1 100, .next, .next]).2 = [101, 102, 103] ∧
    (SeqGroup.new.run ([.apply 101 2, .next, .apply 1 100, .next, .next, .next])).2 = [101, 102, 1, 2] := by
  decide

/-! ## 3. history ids across leaders, restarts and snapshots

All nodes agree, at every moment, on the high-water mark: the end of the last block of ids that a leader opened (the
common start value before the first). A snapshot stores that mark, and the requests committed since carry the later
ones, so what a node restarts as (`Saved.replay`) sits at the cluster's mark at every moment too: it may take a node's
place. -/

/-- a node when `top` is the last id issued and `M` the mark: it is at or above `top` and ends at `M` (`endId`: `last`
plus the ids it still has in reserve) -/
structure Node (top M : Nat) (s : SimpleSeq) : Prop where
  top_le : top ≤ s.last
  endId : s.endId = M
  batch : 1 ≤ s.batch

/-- At most one node holds reserved ids (`one`; `cache > 0`), the one that opened the last block: two holders would both
issue them. -/
structure CInv (nodes : Cluster) (top M : Nat) : Prop where
  node : ∀ i, Node top M (nodes i)
  one : ∀ i j, i ≠ j → 0 < (nodes i).cache → (nodes j).cache = 0

/-- `t` sits at the mark and holds no reservation: a follower that has seen the mark, a node that restarts, a
snapshot -/
structure AtMark (M : Nat) (t : SimpleSeq) : Prop where
  cache : t.cache = 0
  last : t.last = M
  batch : 1 ≤ t.batch

theorem AtMark.endId {M : Nat} {t : SimpleSeq} (h : AtMark M t) : t.endId = M := by
  rw [SimpleSeq.endId, h.cache, h.last]; rfl

theorem AtMark.node {M top : Nat} {t : SimpleSeq} (h : AtMark M t) (hle : top ≤ M) : Node top M t :=
  ⟨h.last ▸ hle, h.endId, h.batch⟩

theorem CInv.top_le_mark {nodes : Cluster} {top M : Nat} (h : CInv nodes top M) : top ≤ M :=
  (h.node 0).endId ▸ Nat.le_trans (h.node 0).top_le (Nat.le_add_right _ _)

/-- what a node restarts as, at once or later from a snapshot taken now -/
theorem CInv.restart {nodes : Cluster} {top M : Nat} (h : CInv nodes top M) (i : Nat) :
    AtMark M ((nodes i).setLastId (nodes i).endId) :=
  ⟨rfl, (h.node i).endId, (h.node i).batch⟩

theorem issue_leader (s : SimpleSeq) :
    applyMark s.nextState.1.2 s.nextState.2 = s.nextState.2 ∧ s.nextState.1.1 = s.last + 1 ∧
    s.nextState.2.last = s.last + 1 ∧ s.nextState.2.batch = s.batch := by
  unfold SimpleSeq.nextState
  by_cases hc : s.cache = 0
  · -- the leader applies its own mark like every node: it is not above the leader's new end, and `setValidLastId`
    -- moves only to a strictly greater value
    have : ¬ (s.last + 1 + (s.batch - 1) < s.last + s.batch) := by omega
    simp [hc, applyMark, SimpleSeq.setValidLastId, this]
  · simp [hc, applyMark]

/-- `t`: any state other than the issuing leader `s`, a node or what a snapshot replays to. Without a reservation `s`
opens a block, and the mark it sends is above where `t` ends; with one it sends no mark, its end stays, and `t` (which
then holds none) is there already. -/
theorem issue_other {M : Nat} {s t : SimpleSeq} (hs : s.endId = M) (hb : 1 ≤ s.batch) (ht : t.endId = M)
    (hbt : 1 ≤ t.batch) (hc : 0 < s.cache → t.cache = 0) : AtMark s.nextState.2.endId (applyMark s.nextState.1.2 t) := by
  rw [SimpleSeq.endId] at hs ht
  unfold SimpleSeq.nextState
  by_cases h0 : s.cache = 0
  · rw [if_pos h0, applyMark, SimpleSeq.setValidLastId, if_pos (by omega)]
    exact ⟨rfl, show s.last + s.batch = s.last + 1 + (s.batch - 1) by omega, hbt⟩
  · rw [if_neg h0]
    have h1 := hc (Nat.pos_of_ne_zero h0)
    exact ⟨h1, show t.last = s.last + 1 + (s.cache - 1) by omega, hbt⟩

theorem cinv_issue {nodes : Cluster} {top M : Nat} (i : Nat) (h : CInv nodes top M) :
    top < (nodes i).nextState.1.1 ∧
      CInv (clusterStep nodes (.issue i)).1 (nodes i).nextState.1.1 (nodes i).nextState.2.endId := by
  obtain ⟨e0, e1, e2, e3⟩ := issue_leader (nodes i)
  have hi : (clusterStep nodes (.issue i)).1 i = (nodes i).nextState.2 := by simp [clusterStep, e0]
  -- every node but the leader sits at the new end with nothing in reserve, so the leader alone can hold a reservation
  have hj : ∀ j, j ≠ i → AtMark (nodes i).nextState.2.endId ((clusterStep nodes (.issue i)).1 j) := by
    intro j hj
    simp only [clusterStep, hj, if_false]
    exact issue_other (h.node i).endId (h.node i).batch (h.node j).endId (h.node j).batch (h.one i j (Ne.symm hj))
  rw [e1]
  refine ⟨Nat.lt_succ_of_le (h.node i).top_le, fun j => ?_, fun a b hab hc => ?_⟩
  · by_cases hji : j = i
    · rw [hji, hi]; exact ⟨Nat.le_of_eq e2.symm, rfl, e3 ▸ (h.node i).batch⟩
    · exact (hj j hji).node (e2 ▸ Nat.le_add_right _ _)
  · by_cases ha : a = i
    · exact (hj b (ha ▸ hab.symm)).cache
    · rw [(hj a ha).cache] at hc; cases hc

theorem cinv_set {nodes : Cluster} {top M : Nat} {t : SimpleSeq} (j : Nat) (h : CInv nodes top M) (ht : AtMark M t) :
    CInv (fun k => if k = j then t else nodes k) top M := by
  refine ⟨fun k => ?_, fun a b hab hc => ?_⟩
  · split
    · exact ht.node h.top_le_mark
    · exact h.node k
  · by_cases ha : a = j
    · simp [ha, ht.cache] at hc
    · simp only [ha, if_false] at hc ⊢
      split
      · exact ht.cache
      · exact h.one a b hab hc

theorem replay_append (sv : Saved) (m : Option Nat) :
    ({ sv with marks := sv.marks ++ [m] } : Saved).replay = applyMark m sv.replay := by
  simp [Saved.replay, List.foldl_append]

def CInv2 (c : Cluster2) (top : Nat) : Prop :=
  ∃ M, CInv c.nodes top M ∧ ∀ k sv, c.saved k = some sv → AtMark M sv.replay

theorem cinv2_step (c : Cluster2) (top : Nat) (op : COp2) (h : CInv2 c top) :
    match (cluster2Step c op).2 with
    | some x => top < x ∧ CInv2 (cluster2Step c op).1 x
    | none => CInv2 (cluster2Step c op).1 top := by
  obtain ⟨M, hc, hs⟩ := h
  cases op with
  | issue i =>
    obtain ⟨hlt, hc'⟩ := cinv_issue i hc
    refine ⟨hlt, _, hc', fun k sv' hk => ?_⟩
    obtain ⟨sv, hsv, rfl⟩ := Option.map_eq_some_iff.mp hk
    have ht := hs k sv hsv
    rw [replay_append]
    exact issue_other (hc.node i).endId (hc.node i).batch ht.endId ht.batch fun _ => ht.cache
  | restart i => exact ⟨M, cinv_set i hc (hc.restart i), hs⟩
  | snapshot i =>
    refine ⟨M, hc, ?_⟩
    intro k sv hk
    simp only [cluster2Step] at hk
    split at hk
    · cases hk; exact hc.restart i
    · exact hs k sv hk
  | restartSaved i =>
    cases hi : c.saved i with
    | none => simp only [cluster2Step, hi]; exact ⟨M, hc, hs⟩
    | some sv => simp only [cluster2Step, hi]; exact ⟨M, cinv_set i hc (hs i sv hi), hs⟩

theorem cluster2_run_increasing (ops : List COp2) (c : Cluster2) (top : Nat) (h : CInv2 c top) :
    (∀ x ∈ (cluster2Run c ops).2, top < x) ∧ List.Pairwise (· < ·) (cluster2Run c ops).2 := by
  induction ops generalizing c top with
  | nil => exact ⟨(fun _ hx => nomatch hx), .nil⟩
  | cons op rest ih =>
    have hs := cinv2_step c top op h
    simp only [cluster2Run]
    split at hs
    · rename_i x hx
      rw [hx]
      obtain ⟨i1, i2⟩ := ih _ x hs.2
      exact ⟨List.forall_mem_cons.mpr ⟨hs.1, fun y hy => Nat.lt_trans hs.1 (i1 y hy)⟩, List.pairwise_cons.mpr ⟨i1, i2⟩⟩
    · rename_i hx
      rw [hx]
      exact ih _ top hs

/-- **History ids are strictly increasing across publishes by changing leaders, compactions at arbitrary points, and
restarts from the last snapshot plus replay of the log since** - for every batch size ≥ 1 and any number of nodes. -/
theorem history_ids_increasing_with_snapshots (start batch : Nat) (hb : 1 ≤ batch) (ops : List COp2) :
    List.Pairwise (· < ·) (cluster2Run ⟨fun _ => SimpleSeq.new start batch, fun _ => none⟩ ops).2 :=
  (cluster2_run_increasing ops ⟨fun _ => SimpleSeq.new start batch, fun _ => none⟩ start
    ⟨start, ⟨fun _ => ⟨Nat.le_refl _, rfl, hb⟩, fun _ _ _ hc => nomatch hc⟩, fun _ _ hk => nomatch hk⟩).2

/-- the statement is about something: a compaction in the middle of a block, two more ids, a restart from that
snapshot, one more id -/
example : (cluster2Run ⟨fun _ => SimpleSeq.new 0 100, fun _ => none⟩
    [.issue 0, .issue 0, .snapshot 0, .issue 0, .issue 0, .restartSaved 0, .issue 0]).2 = [1, 2, 3, 4, 101] := by
  decide

/-- a cluster without snapshots is one that never takes any -/
def COp.lift : COp → COp2
  | .issue i => .issue i
  | .restart i => .restart i

theorem clusterRun_eq_cluster2Run_lift (nodes : Cluster) (ops : List COp) :
    (clusterRun nodes ops).2 = (cluster2Run ⟨nodes, fun _ => none⟩ (ops.map COp.lift)).2 := by
  induction ops generalizing nodes with
  | nil => rfl
  | cons op rest ih => cases op <;> simp [clusterRun, cluster2Run, cluster2Step, clusterStep, COp.lift, ih]

/-- **History ids are strictly increasing (hence never issued twice) across any sequence of
publishes by changing leaders and node restarts**, for every batch size ≥ 1 and any number of nodes,
when every node starts from the same persisted value. -/
theorem history_ids_strictly_increasing (start batch : Nat) (hb : 1 ≤ batch) (ops : List COp) :
    List.Pairwise (· < ·) (clusterRun (fun _ => SimpleSeq.new start batch) ops).2 := by
  rw [clusterRun_eq_cluster2Run_lift]
  exact history_ids_increasing_with_snapshots start batch hb _

theorem history_ids_unique (start batch : Nat) (hb : 1 ≤ batch) (ops : List COp) :
    (clusterRun (fun _ => SimpleSeq.new start batch) ops).2.Nodup :=
  (history_ids_strictly_increasing start batch hb ops).imp (fun h => Nat.ne_of_lt h)

end RNacos.Props.C19
