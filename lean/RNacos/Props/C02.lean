import RNacos.Lemmas.MgrWrite
import RNacos.Lemmas.LogView
/-!
# C02 — Raft log: acknowledged entries survive reopen unchanged; none are invented

Model: `RNacos/Model/LogFile.lean` – one log file (`LogInnerManager`) byte by byte: header, varint index area,
length-prefixed record stream, zero padding, the cursors and the data handle's position.
Specification: a list of entries (`stepA`): an append is taken iff it is acknowledged, a truncation keeps the
entries below the cut, a reopen changes nothing.

`WF f es` ("file `f` holds exactly `es`") is the representation invariant; `run_wf` shows it for every history.
The theorems below are its observable consequences.  The 1024-byte chunked readers are represented by the
whole-stream parse (`scanFrames`); C20's `drain_any_chunking` / `scan_any_chunking` prove the chunked readers
equal to it for every chunking of a stream of this shape (frames followed by zeros).
-/
namespace RNacos.Props.C02
open RNacos.LogFile RNacos.Spec.Stream

/-- the state reached by a history from a new file -/
def after (start pre split : Nat) (ops : List Op) : LogFile × List Rec := run (create start pre split, []) ops

/-- **refinement for every history** (append / rejected append / truncation / reopen, any payload sizes, any
number of index steps): the file holds exactly the specified log -/
theorem history_holds_spec (start pre split : Nat) (ops : List Op) (hs : start < 2 ^ 64) (hp : pre < 2 ^ 64)
    (hok : HistOK (create start pre split) ops) :
    WF (after start pre split ops).1 (after start pre split ops).2 :=
  run_wf ops _ _ (create_wf_default start pre split hs hp) hok

/-- **reads return exactly the acknowledged entries**: same index, term and payload, contiguous, in order
(the slice `[max a split_off, min b end)` of the specified log) -/
theorem read_returns_spec (f : LogFile) (es : List Rec) (a b : Nat) (h : WF f es) :
    readRecords f a b = some ((es.drop (max a f.splitOff - f.startIndex)).take (min b (endIndex f) - max a f.splitOff)) :=
  read_wf f es a b h

/-- **nothing is invented**: whatever a read returns is an entry of the specified log -/
theorem read_subset_spec (f : LogFile) (es : List Rec) (a b : Nat) (h : WF f es) (rs : List Rec)
    (hr : readRecords f a b = some rs) : ∀ r ∈ rs, r ∈ es := by
  rw [read_wf f es a b h] at hr
  cases hr
  intro r hr
  exact List.mem_of_mem_drop (List.mem_of_mem_take hr)

/-- the entries are contiguous from the file's first index -/
theorem spec_contiguous (f : LogFile) (es : List Rec) (h : WF f es) (i : Nat) (hi : i < es.length) :
    es[i].index = f.startIndex + i := h.idx i hi

/-- **reopen**: closing and reopening (from the bytes alone – cursors, index list and counters are recomputed)
gives a file holding the same entries, with the same end index -/
theorem reopen_same_entries (f : LogFile) (es : List Rec) (h : WF f es) (fl pre sp : Nat) :
    WF (load f.bytes fl f.startIndex pre sp) es ∧
    endIndex (load f.bytes fl f.startIndex pre sp) = endIndex f := by
  have hw := load_wf f es h fl pre sp
  refine ⟨hw, ?_⟩
  rw [endIndex_wf _ es hw, endIndex_wf f es h, (load_start _ _ _ _ _).1]

/-- **the last entry is reported** after a reopen: last index and term are those of the last stored entry
(provided the catalogue has not split it off) -/
theorem reopen_reports_last (f : LogFile) (es : List Rec) (h : WF f es) (fl pre sp : Nat) (hne : es ≠ [])
    (hsp : max sp f.startIndex < endIndex f) :
    lastInfo (load f.bytes fl f.startIndex pre sp) = ((es.getLast hne).index, (es.getLast hne).term) := by
  obtain ⟨hl, hw0⟩ := load_eq f es h fl pre sp
  have hlen : 0 < es.length := List.length_pos_iff.mpr hne
  have hend := endIndex_wf f es h
  have he0 : endIndex (reloaded f es fl pre sp) = endIndex f := (endIndex_wf _ es hw0).trans hend.symm
  rw [hl, lastInfo, endIndex_initTerm, he0, initTerm_lastTerm _ es pre hw0 hne (he0 ▸ hsp), List.getLast_eq_getElem hne,
    h.idx _ (Nat.sub_one_lt (Nat.ne_of_gt hlen)), hend, Nat.add_sub_assoc hlen]

/-- an empty log reports the index before its first one and the catalogue's previous term -/
theorem reopen_reports_empty (f : LogFile) (h : WF f []) (fl pre sp : Nat) :
    lastInfo (load f.bytes fl f.startIndex pre sp) = (f.startIndex - 1, pre) := by
  -- no record is counted, so `init` looks up no term
  have h0 : ¬ (reloaded f [] fl pre sp).msgCount > 0 := Nat.lt_irrefl 0
  rw [(load_eq f [] h fl pre sp).1, initTerm, if_neg h0]
  rfl

/-- **appends**: an acknowledged append is the contiguous one, it becomes the last entry; a non-contiguous one is
refused and changes nothing -/
theorem append_ack (f : LogFile) (es : List Rec) (r : Rec) (h : WF f es) (hfull : isFull f = false)
    (hidx : r.index = endIndex f) (hr : RecOK r) (hsz : f.dataCursor + (frame (recBody r)).length < 2 ^ 64) :
    WF (write f r).1 (es ++ [r]) ∧ lastInfo (write f r).1 = (r.index, r.term) := by
  have hw := write_wf f es r h hfull hidx hr hsz
  refine ⟨hw, ?_⟩
  unfold lastInfo
  rw [(write_reports f r hfull hidx).1, endIndex_wf _ _ hw, hidx, endIndex_wf f es h, (write_static f r).start]
  simp

theorem append_refused (f : LogFile) (r : Rec) (hfull : isFull f = false) (hidx : r.index ≠ endIndex f) :
    write f r = (f, .indexEqualError) :=
  write_index_ne f r hfull hidx

/-! ### non-vacuity: the hypotheses are met by concrete states -/
example : RecOK ⟨1, 1, [7, 8, 9]⟩ ∧ isFull (create 1 0 0) = false ∧ (⟨1, 1, [7, 8, 9]⟩ : Rec).index = endIndex (create 1 0 0) := by
  refine ⟨by unfold RecOK; decide, by decide, by decide⟩

/-- a history with an accepted append, a truncation, a reopen and a re-append: the side conditions hold and the
specified log is what one expects (replayed on the log alone, `run_view`) -/
example :
    let ops : List Op := [.append ⟨1, 1, [7]⟩, .append ⟨2, 1, []⟩, .strip 2, .reopen 0 0, .append ⟨2, 3, [1, 2]⟩]
    (after 1 0 0 ops).2 = [⟨1, 1, [7]⟩, ⟨2, 3, [1, 2]⟩] ∧
    readRecords (after 1 0 0 ops).1 0 9 = some [⟨1, 1, [7]⟩, ⟨2, 3, [1, 2]⟩] := by
  intro ops
  unfold after
  have h0 := create_wf_default 1 0 0 (by omega) (by omega)
  obtain ⟨hok, hv⟩ := run_view ops _ _ h0 (by decide)
  have hd : ops.foldl View.step (view (create 1 0 0) []) = ⟨1, 128, 4096, 1, [⟨1, 1, [7]⟩, ⟨2, 3, [1, 2]⟩]⟩ := by decide
  rw [hd] at hv
  refine ⟨(View.mk.inj hv).2.2.2.2, ?_⟩
  rw [read_view _ _ (run_wf ops _ _ h0 hok) _ hv 0 9]
  rfl

end RNacos.Props.C02

/-! ## the whole log: several files (manager level)

`RNacos/Model/LogManager.lean` models `RaftLogManager` - the catalogue of files plus what each holds, with *when a
file is full* left as a parameter.  `Chain` (Lemmas/MgrBasic) is its invariant.  The theorems say that, whatever the
geometry of the files and the sizes of the records, the manager's operations are the list specification's
(`RNacos/Model/LogStore.lean`): where the files roll over cannot be seen. -/
namespace RNacos.Props.C02
open RNacos.LogManager RNacos.LogStore

/-- the list specification's view of a catalogue -/
def absStore (fs : List File) (t : Nat) (p : Option (Nat × Nat)) : Store := { ents := absEnts fs, next := absNext fs, lastTerm := t, prePtr := p }

/-- **append / replicate refine the specification for every file geometry**: a contiguous batch is taken iff the
specification takes it, the visible log and the next expected index are the specification's, the catalogue stays
well formed; a refused batch changes nothing that can be seen -/
theorem manager_append_refines (full : File → Bool) (hfresh : ∀ f : File, f.recs = [] → full f = false)
    (fs : List File) (hc : Chain fs) (e : Ent) (es : List Ent) (hcont : Contig (e :: es)) (t : Nat) (p : Option (Nat × Nat)) :
    Chain (writeBatchFs full fs (e :: es)).1 ∧
    ((writeBatchFs full fs (e :: es)).2 = .ok ↔ (append (absStore fs t p) (e :: es)).2 = true) ∧
    absEnts (writeBatchFs full fs (e :: es)).1 = (append (absStore fs t p) (e :: es)).1.ents ∧
    absNext (writeBatchFs full fs (e :: es)).1 = (append (absStore fs t p) (e :: es)).1.next := by
  have h := writeBatchFs_spec full hfresh (e :: es) fs (absStore fs t p) ⟨hc, rfl, rfl⟩ hcont
  exact ⟨h.1.1, h.2, h.1.2.1, h.1.2.2⟩

/-- **reads** return exactly the specification's entries of the requested range -/
theorem manager_get_refines (fs : List File) (hc : Chain fs) (a b t : Nat) (p : Option (Nat × Nat)) :
    LogManager.get ⟨fs, p⟩ a b = LogStore.get (absStore fs t p) a b :=
  get_spec fs _ p ⟨hc, rfl, rfl⟩ a b

/- non-vacuity: three appends with a file that is full after two records roll over, and read back as one log -/
def full2 : File → Bool := fun f => decide (f.recs.length ≥ 2)

example :
    (writeBatchFs full2 [] (mkEnts 1 1 3 5 0)).2 = .ok ∧ (writeBatchFs full2 [] (mkEnts 1 1 3 5 0)).1.length = 2 ∧
      absEnts (writeBatchFs full2 [] (mkEnts 1 1 3 5 0)).1 = mkEnts 1 1 3 5 0 := by
  decide

example : Contig (mkEnts 1 1 3 5 0) := by simp [mkEnts, Contig, List.range, List.range.loop]

end RNacos.Props.C02
