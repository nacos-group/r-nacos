import RNacos.Model.Auth
import RNacos.Props.OracleTables
/-!
# C17 — console: every API needs a login session; roles cannot exceed their grants

Tables: `RNacos/Gen/Tables.lean` (re-generated from /repo on every run).  Oracle tables
(`LoginExceptions`, mutating / admin-only classification): `RNacos/Props/OracleTables.lean`, from the
property text.  Table theorems are closed by kernel evaluation over the *whole* generated table.
-/
namespace RNacos.Props.C17
open RNacos.Auth RNacos.Gen RNacos.Props.Oracle

/-! ## classification of handlers (the oracle) -/

/-- the handler's base name: what follows the last `:` -/
def baseName (h : Str) : Str := (h.reverse.takeWhile (· ≠ 58)).reverse

def hasPrefix (p s : Str) : Bool := p.isPrefixOf s

/-- sub-list search (exact) -/
def containsSub (needle : Str) : Str → Bool
  | [] => needle.isEmpty
  | b :: bs => needle.isPrefixOf (b :: bs) || containsSub needle bs

/-- does calling this route change configuration, services, namespaces, users or MCP data? -/
def mutating (r : Str × Str × Str) : Bool :=
  let bn := baseName r.2.2
  if sessionHandlers.contains bn then false
  else if mutatingPrefixes.any (hasPrefix · bn) then true
  else if readonlyPrefixes.any (hasPrefix · bn) then false
  else r.2.1 != methodGet

def adminOnly (r : Str × Str × Str) : Bool :=
  adminOnlyHandlers.contains (baseName r.2.2) || transferMarkers.any (containsSub · r.2.2)

/-! ## every API call needs a session -/

/-- the exceptions granted by the code are exactly login pages and the endpoints named in the property:
nothing else under the API prefix is exempt -/
theorem ignore_list_within_exceptions :
    (consoleIgnoreLogin.all fun p =>
      consoleLoginExceptions.contains p || !(containsSub [47, 97, 112, 105, 47] p)) = true := by
  decide +kernel

/-- no API route has a path that the static-file pattern would let through unchecked -/
theorem no_api_path_is_static : (consoleRoutes.all fun r => !isStaticPath r.1) = true := by decide +kernel

theorem routes_under_api : (consoleRoutes.all fun r => containsSub [47, 97, 112, 105, 47] r.1) = true := by
  decide +kernel

/-- every route is a login exception of the property or subject to the login check: it lies under the API prefix, where
the code's exemptions are the property's (`ignore_list_within_exceptions`), and its path is not a static one -/
theorem routes_all_checked :
    (consoleRoutes.all fun r => consoleLoginExceptions.contains r.1 || consoleIsCheckPath r.1) = true := by
  refine List.all_eq_true.mpr fun r hr => ?_
  have hapi := List.all_eq_true.mp routes_under_api r hr
  have hst := List.all_eq_true.mp no_api_path_is_static r hr
  unfold consoleIsCheckPath
  cases hig : consoleIgnoreLogin.contains r.1
  · simpa using Or.inr hst
  · have := List.all_eq_true.mp ignore_list_within_exceptions r.1 (List.contains_iff_mem.mp hig)
    simpa [hapi] using this

/-- **Every registered console API route outside the login exceptions is refused without a valid
session** (no token, or a token that resolves to no session: garbage / expired). -/
theorem api_needs_session (r : Str × Str × Str) (hr : r ∈ consoleRoutes)
    (hex : consoleLoginExceptions.contains r.1 = false) (token : Str) (session : Str → Option (List Str))
    (hno : token.isEmpty = true ∨ session token = none) :
    consoleDecide r.1 r.2.1 token session = .noLogin := by
  have h := List.all_eq_true.mp routes_all_checked r hr
  rw [hex, Bool.false_or] at h
  rcases hno with h1 | h1 <;> simp [consoleDecide, h, h1]

/-! ## roles

A role's decision is a search through the grants of its modules, and a request is matched by a grant iff the grant
covers the grant that names exactly that request.  So everything here is said with one relation between grants,
`covers`, and decided on the grant tables: that a higher role may do what a lower one may is a comparison of their
grants (`roleLe`), which looks at the routes only for a grant of the lower role that no grant of the higher one
covers. -/

/-- A fingerprint of a string, here only to make the kernel's evaluations below cheap.  The paths all begin alike
(`/rnacos/api/console/`), and the kernel compares two lists element by element along their common prefix, two numbers in
one step: `covers` compares fingerprints first and strings only when those agree.  Nothing is asked of `fp`: by `fp_beq`
the test is plain equality whatever it computes. -/
def fp (s : Str) : Nat := s.foldl (fun h b => 256 * h + b) 0

theorem fp_beq (a b : Str) : (fp a == fp b && a == b) = (a == b) := by
  by_cases h : a = b <;> simp [h]

/-- grant `a` allows whatever grant `b` allows -/
def covers (a b : Str × Str) : Bool :=
  (a.2 == methodAll || a.2 == b.2) && (a.1.isEmpty || fp a.1 == fp b.1 && a.1 == b.1)

theorem covers_trans {a b c : Str × Str} (hab : covers a b = true) (hbc : covers b c = true) : covers a c = true := by
  simp only [covers, fp_beq, Bool.and_eq_true, Bool.or_eq_true, beq_iff_eq, List.isEmpty_iff] at *
  exact ⟨hab.1.elim Or.inl fun h => h ▸ hbc.1, hab.2.elim Or.inl fun h => h ▸ hbc.2⟩

/-- a request as the grant that allows exactly it (`PathResource::match_url` reads the empty path as `/`) -/
def asGrant (p m : Str) : Str × Str := (if p.isEmpty then [47] else p, m)

theorem resMatch_eq (res : Str × Str) (p m : Str) : resMatch res p m = covers res (asGrant p m) := by
  unfold resMatch covers asGrant
  rw [fp_beq]
  split <;> simp [*]

/-- The grants of a role, kept module by module where `groupResources` flattens them: `roleLe` compares two roles by
module, and a module that both have is settled by its name. -/
def modulesOf (role : Str) : List Str := ((lookup permRoles role).getD []).flatMap fun g => (lookup permGroups g).getD []
def grantsOf (mod : Str) : List (Str × Str) := (lookup permModules mod).getD []

def allows (role : Str) (g : Str × Str) : Bool := (modulesOf role).any fun mod => (grantsOf mod).any (covers · g)

theorem roleMatch_eq (role p m : Str) : roleMatch role p m = allows role (asGrant p m) := by
  simp [roleMatch, groupResources, modulesOf, grantsOf, allows, List.any_flatMap, resMatch_eq]

theorem allows_of_covers {role : Str} {b g : Str × Str} (h : allows role b = true) (hb : covers b g = true) :
    allows role g = true := by
  obtain ⟨mod, hmod, h⟩ := List.any_eq_true.mp h
  obtain ⟨a, ha, h⟩ := List.any_eq_true.mp h
  exact List.any_eq_true.mpr ⟨mod, hmod, List.any_eq_true.mpr ⟨a, ha, covers_trans h hb⟩⟩

/-- **a visitor can never change configuration, services, namespaces, users or MCP data** -/
theorem visitor_readonly :
    (consoleRoutes.all fun r => !(mutating r) || !(roleMatch roleVisitor r.1 r.2.1)) = true := by
  -- rewritten first, here and below, so that the kernel evaluates `covers`, fingerprints before strings: the sweep
  -- over `resMatch` as it stands is several times dearer
  simp only [roleMatch_eq]; decide +kernel

/-- **a developer can never manage users or use the full-data transfer export/import** -/
theorem developer_no_user_admin_no_transfer :
    (consoleRoutes.all fun r => !(adminOnly r) || !(roleMatch roleDeveloper r.1 r.2.1)) = true := by
  simp only [roleMatch_eq]; decide +kernel

/-- on the routes given, role `d` may do whatever role `v` may.  Decided module by module: a module of `v` is a module
of `d` too, or each of its grants is allowed to `d` as it stands, or - the exact test, for what is left: the visitor's
grant of `GET /rnacos/api/console/download`, a path that no route has - every route the grant matches is open to `d` -/
def roleLe (routes : List (Str × Str × Str)) (v d : Str) : Bool :=
  (modulesOf v).all fun mv => (modulesOf d).contains mv ||
    (grantsOf mv).all fun b => allows d b ||
      routes.all fun r => !(covers b (asGrant r.1 r.2.1)) || allows d (asGrant r.1 r.2.1)

theorem roleLe_sound {routes : List (Str × Str × Str)} {v d : Str} (h : roleLe routes v d = true)
    (r : Str × Str × Str) (hr : r ∈ routes) (hv : roleMatch v r.1 r.2.1 = true) : roleMatch d r.1 r.2.1 = true := by
  rw [roleMatch_eq] at hv ⊢
  obtain ⟨mv, hmv, hv⟩ := List.any_eq_true.mp hv
  obtain ⟨b, hb, hbr⟩ := List.any_eq_true.mp hv
  rcases Bool.or_eq_true_iff.mp (List.all_eq_true.mp h mv hmv) with hc | hc
  · exact List.any_eq_true.mpr ⟨mv, List.contains_iff_mem.mp hc, hv⟩
  · rcases Bool.or_eq_true_iff.mp (List.all_eq_true.mp hc b hb) with hc | hc
    · exact allows_of_covers hc hbr
    · simpa [hbr] using List.all_eq_true.mp hc r hr

theorem visitor_le_developer : roleLe consoleRoutes roleVisitor roleDeveloper = true := by decide +kernel

theorem developer_le_manager : roleLe consoleRoutes roleDeveloper roleManager = true := by decide +kernel

theorem visitor_no_user_admin_no_transfer :
    (consoleRoutes.all fun r => !(adminOnly r) || !(roleMatch roleVisitor r.1 r.2.1)) = true := by
  refine List.all_eq_true.mpr fun r hr => ?_
  have hd := List.all_eq_true.mp developer_no_user_admin_no_transfer r hr
  have hle := roleLe_sound visitor_le_developer r hr
  cases hv : roleMatch roleVisitor r.1 r.2.1
  · simp
  · simpa [hle hv] using hd

/-- **on every registered route, whatever a lower role may do a higher role may do too** -/
theorem role_monotone :
    (consoleRoutes.all fun r =>
      (!(roleMatch roleVisitor r.1 r.2.1) || roleMatch roleDeveloper r.1 r.2.1) &&
      (!(roleMatch roleDeveloper r.1 r.2.1) || roleMatch roleManager r.1 r.2.1)) = true := by
  refine List.all_eq_true.mpr fun r hr => ?_
  have h1 := roleLe_sound visitor_le_developer r hr
  have h2 := roleLe_sound developer_le_manager r hr
  cases hv : roleMatch roleVisitor r.1 r.2.1 <;> cases hd : roleMatch roleDeveloper r.1 r.2.1 <;> simp_all

/-- the role values known to the code are exactly manager/developer/visitor -/
theorem known_roles : permRoles.map (·.1) = [roleManager, roleDeveloper, roleVisitor] := by decide +kernel

/-- an unknown role string grants nothing -/
theorem unknown_role_nothing (v : Str) (h : lookup permRoles v = none) (p m : Str) :
    roleMatch v p m = false := by
  unfold roleMatch; simp [h]

/-- several roles = the union of their grants -/
theorem multi_role_is_union (a b : List Str) (p m : Str) :
    rolesMatch (a ++ b) p m = (rolesMatch a p m || rolesMatch b p m) := by
  unfold rolesMatch; exact List.any_append

theorem no_role_nothing (p m : Str) : rolesMatch [] p m = false := rfl

/-- **a route that is not listed for any role of the user is reachable by nobody**: a positive decision
always comes from a concrete grant entry of one of the user's roles -/
theorem unlisted_unreachable (roles : List Str) (p m : Str) (h : rolesMatch roles p m = true) :
    ∃ role ∈ roles, ∃ g ∈ (lookup permRoles role).getD [], ∃ res ∈ groupResources g, resMatch res p m = true := by
  simpa only [rolesMatch, roleMatch, List.any_eq_true] using h

/-- no grant entry is a wildcard path: a grant matches only the exact path it names -/
theorem no_wildcard_grants :
    (permGroups.all fun g => (groupResources g.1).all fun res => !res.1.isEmpty) = true := by
  decide +kernel

/-- with a valid session the decision is exactly the role table -/
theorem logged_in_decision (path method token : Str) (session : Str → Option (List Str)) (roles : List Str)
    (hc : consoleIsCheckPath path = true) (ht : token.isEmpty = false) (hs : session token = some roles) :
    consoleDecide path method token session =
      if rolesMatch roles path method then .served else .noPermission := by
  unfold consoleDecide; simp [hc, ht, hs]

/-! ## non-vacuity -/
example : ∃ r ∈ consoleRoutes, mutating r = true ∧ roleMatch roleDeveloper r.1 r.2.1 = true := by decide +kernel
example : ∃ r ∈ consoleRoutes, adminOnly r = true ∧ roleMatch roleManager r.1 r.2.1 = true := by decide +kernel
example : ∃ r ∈ consoleRoutes, roleMatch roleVisitor r.1 r.2.1 = true ∧ consoleLoginExceptions.contains r.1 = false := by
  decide +kernel

end RNacos.Props.C17
