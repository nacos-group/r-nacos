import RNacos.Base.BigEndian
import RNacos.Base.AssocList
import RNacos.Lemmas.FileReader
import RNacos.Lemmas.WriteAt
/-!
# C05 — Raft vote, term, membership and node addresses are durable, never regress

Model: `RNacos/Model/IndexFile.lean` – the catalogue file `index` byte by byte (8-byte header, one
length-prefixed protobuf record rewritten in place without truncation) and the read-modify-write
mutators of `RaftIndexManager`.

The protobuf codec of `RaftIndex` is modelled (`encIdx`/`decIdx`) but its round trip is **assumed per
record** (`RoundTrips r`, a decidable, closed statement that is checked by evaluation for the records of
the non-vacuity examples and by the correspondence for generated ones) – quick-protobuf is not verified.
-/
namespace RNacos.Props.C05
open RNacos.IndexFile RNacos.Varint RNacos.FileReader

/-- the modelled codec returns the record it was given -/
def RoundTrips (r : RaftIdx) : Prop := decIdx (encIdx r) = some r

/-- the encoded record's length is a u64 (the length prefix can hold it) -/
def Fits (r : RaftIdx) : Prop := (encIdx r).length < 2 ^ 64

theorem be8_length (n : Nat) : (be8 n).length = 8 := by simp [be8]

theorem unbe8_be8 (n : Nat) (h : n < 2 ^ 64) (rest : List Nat) : unbe8 (be8 n ++ rest) = n := by
  rw [unbe8, List.take_left' (be8_length n), be8, BE.foldl_digits_of_lt h]

theorem unbe8_take_append (bs rest : List Nat) (h : 8 ≤ bs.length) : unbe8 (bs.take 8 ++ rest) = unbe8 bs := by
  unfold unbe8
  rw [List.take_append_of_le_length (by simp; omega), List.take_take, Nat.min_self]

/-! ### reading back what `write_index` wrote -/

/-- the catalogue's frame is the frame of the record streams, whose lemmas apply -/
theorem frame_eq (b : List Nat) : frame b = RNacos.Spec.Stream.frame b := rfl

/-- the record part: a frame of `encIdx r` followed by any stale bytes of a longer, older record parses to `r`
– also when `r` is the all-default record, whose frame is the single byte 0 -/
theorem parseRec_frame (stale : List Nat) (r : RaftIdx) (hrt : RoundTrips r) (hf : Fits r) :
    parseRec (frame (encIdx r) ++ stale) = some r := by
  unfold parseRec
  by_cases he : encIdx r = []
  · -- the empty record: its frame is the byte 0, and only the all-default record encodes to nothing
    have hr : some r = some ({} : RaftIdx) := by rw [← hrt, he]; decide
    rw [he, Option.some.inj hr]; rfl
  · have hpos := List.length_pos_iff.mpr he
    have hlen : readLen ⟨RNacos.Spec.Stream.frame (encIdx r) ++ stale, 0⟩ = some _ := readLen_frame ⟨hpos, hf⟩ rfl
    rw [frame_eq, if_neg (RNacos.BufReader.frame_head?_ne_zero (encIdx r) hpos stale), hlen]
    simp only [List.take_left', Nat.lt_irrefl, if_false]
    rw [RNacos.Spec.Stream.frame, vlen_vwrite _ _ hf, vreadGo_vwrite _ _ hf]
    simp only [List.drop_left, List.take_length]
    exact hrt

theorem init_eq (bytes : List Nat) (h : freshLimit < bytes.length) :
    init bytes = (parseRec (bytes.drop 8)).map fun idx => ⟨bytes, idx, unbe8 bytes⟩ := by
  simp [init, initL, Nat.not_le.mpr h]

/-- the parse of `init` on a file whose bytes from offset 8 are a frame of `encIdx r` (plus stale bytes) -/
theorem parse_frame (pre stale : List Nat) (r : RaftIdx) (hpre : pre.length = 8) (hrt : RoundTrips r)
    (hf : Fits r) :
    initL freshLimit (pre ++ (frame (encIdx r) ++ stale)) =
      some ⟨pre ++ (frame (encIdx r) ++ stale), r, unbe8 (pre ++ (frame (encIdx r) ++ stale))⟩ := by
  have hbig : freshLimit < (pre ++ (frame (encIdx r) ++ stale)).length := by
    rw [List.length_append, List.length_append, hpre]
    exact Nat.lt_add_of_pos_right (Nat.add_pos_left (RNacos.BufReader.frame_length_pos _) _)
  rw [← init, init_eq _ hbig, List.drop_left' hpre, parseRec_frame stale r hrt hf]; rfl

/-- the state on disk decodes to the state in memory -/
def Consistent (f : IndexFile) : Prop := init f.bytes = some f

/-- For a file longer than its header, consistency says one thing about each of its two parts, the last-applied index in
the header and the record behind it; `write_last_applied_log` and `write_index` each touch one part only. -/
theorem consistent_iff (f : IndexFile) (h : freshLimit < f.bytes.length) :
    Consistent f ↔ parseRec (f.bytes.drop 8) = some f.idx ∧ unbe8 f.bytes = f.applied := by
  obtain ⟨bytes, idx, applied⟩ := f
  unfold Consistent
  rw [init_eq _ h]
  cases parseRec (bytes.drop 8) <;> simp

/-- **reopen after `write_index`**: whatever was in the file before (shorter, equal or longer record),
reopening returns exactly the record just written and the last-applied index that was there -/
theorem reopen_after_writeIndex (f : IndexFile) (r : RaftIdx) (hlen : 8 ≤ f.bytes.length)
    (hrt : RoundTrips r) (hf : Fits r) (happ : unbe8 f.bytes = f.applied) :
    Consistent (f.writeIndex r) := by
  unfold Consistent IndexFile.writeIndex
  dsimp only
  rw [writeAt_eq _ _ _ hlen, init, parse_frame _ _ r (List.length_take_of_le hlen) hrt hf,
    unbe8_take_append _ _ hlen, happ]

/-- **reopen after `write_last_applied_log`**: the record is untouched, the new index is returned -/
theorem reopen_after_writeApplied (f : IndexFile) (n : Nat) (hn : n < 2 ^ 64) (hc : Consistent f)
    (hbig : freshLimit < f.bytes.length) : Consistent (f.writeApplied n) := by
  refine (consistent_iff _ (Nat.lt_of_lt_of_le hbig (le_writeAt_length ..))).mpr ?_
  simp only [IndexFile.writeApplied, writeAt_eq _ _ _ (Nat.zero_le _), List.take_zero, List.nil_append,
    Nat.zero_add, be8_length]
  constructor
  · rw [List.drop_left' (be8_length n)]
    exact ((consistent_iff f hbig).mp hc).1
  · exact unbe8_be8 n hn _

/-! ### interference freedom: every mutator replaces its own fields only -/

theorem catalogue_updates_keep_vote (f : IndexFile) (op : Op)
    (hop : match op with | .hardState .. => False | _ => True) :
    (f.step op).idx.term = f.idx.term ∧ (f.step op).idx.vote = f.idx.vote := by
  cases op with
  | hardState => exact hop.elim
  | _ => exact ⟨rfl, rfl⟩

theorem hardState_keeps_rest (f : IndexFile) (t v : Nat) :
    (f.step (.hardState t v)).idx = { f.idx with term := t, vote := v } ∧
    (f.step (.hardState t v)).applied = f.applied :=
  ⟨rfl, rfl⟩

theorem member_updates_keep_logs (f : IndexFile) (m : List Nat) (a : Option (List Nat))
    (ad : Option (List (Nat × List Nat))) :
    (f.step (.member m a ad)).idx.logs = f.idx.logs ∧ (f.step (.member m a ad)).idx.snapshots = f.idx.snapshots ∧
    (f.step (.member m a ad)).idx.term = f.idx.term ∧ (f.step (.member m a ad)).idx.vote = f.idx.vote :=
  ⟨rfl, rfl, rfl, rfl⟩

theorem logs_update_keeps_members (f : IndexFile) (l : List LogRange) :
    (f.step (.logs l)).idx.member = f.idx.member ∧ (f.step (.logs l)).idx.memberAfter = f.idx.memberAfter ∧
    (f.step (.logs l)).idx.addrs = f.idx.addrs :=
  ⟨rfl, rfl, rfl⟩

/-! ### durability over whole histories -/

/-- the record a mutator is about to write -/
def nextIdx (f : IndexFile) : Op → RaftIdx
  | .applied _ => f.idx
  | op => (f.step op).idx

/-- what one step of a history presupposes: for `applied` that the index fits the 8-byte header field, for every other
op the codec assumption and the size fact for the record it writes -/
def StepOK (f : IndexFile) (op : Op) : Prop :=
  match op with
  | .applied n => n < 2 ^ 64
  | op => RoundTrips (nextIdx f op) ∧ Fits (nextIdx f op)

theorem step_length (f : IndexFile) (op : Op) : f.bytes.length ≤ (f.step op).bytes.length := by
  cases op <;> exact le_writeAt_length ..

/-- **Every acknowledged save is what the next start reads**: a consistent file stays consistent under
every mutator – hard state, membership, addresses, log and snapshot catalogue, last-applied – in any
interleaving; so after any history and any number of reopens the state read back is the state saved last. -/
theorem consistent_step (f : IndexFile) (op : Op) (hc : Consistent f) (hbig : freshLimit < f.bytes.length)
    (hok : StepOK f op) : Consistent (f.step op) ∧ freshLimit < (f.step op).bytes.length := by
  refine ⟨?_, Nat.lt_of_lt_of_le hbig (step_length f op)⟩
  cases op with
  | applied n => exact reopen_after_writeApplied f n hok hc hbig
  -- every other op computes to `f.writeIndex (nextIdx f op)`
  | _ => exact reopen_after_writeIndex f _ (Nat.le_of_lt hbig) hok.1 hok.2 ((consistent_iff f hbig).mp hc).2

/-- reopening a consistent file is the identity: no regress through restarts, however many -/
theorem reopen_identity (f : IndexFile) (hc : Consistent f) : init f.bytes = some f := hc

/-- the file a first start creates -/
def newFile : IndexFile := ⟨writeAt [] 0 (be8 0 ++ frame (encIdx {})), {}, 0⟩

/-- a first start (no file, or a file cut short inside its first 9 bytes) creates the default state, and that
file is already consistent: the 9-byte file is read, not re-created, by the next start -/
theorem fresh_start : init [] = some newFile ∧ Consistent newFile ∧ freshLimit < newFile.bytes.length := by
  unfold Consistent; decide

/-- the premises hold at every step of a history -/
def HistOK : IndexFile → List Op → Prop
  | _, [] => True
  | f, op :: ops => StepOK f op ∧ HistOK (f.step op) ops

/-- **all histories**: after any interleaving of hard-state, membership, address, catalogue and
last-applied saves the file on disk decodes to the state in memory -/
theorem history_consistent (ops : List Op) (f : IndexFile) (hc : Consistent f)
    (hbig : freshLimit < f.bytes.length) (hok : HistOK f ops) :
    Consistent (ops.foldl IndexFile.step f) := by
  induction ops generalizing f with
  | nil => exact hc
  | cons op ops ih =>
    obtain ⟨h1, h2⟩ := consistent_step f op hc hbig hok.1
    exact ih _ h1 h2 hok.2

/-- the last hard state saved in a history -/
def lastHard : List Op → Option (Nat × Nat)
  | [] => none
  | .hardState t v :: ops => (lastHard ops).or (some (t, v))
  | _ :: ops => lastHard ops

theorem history_hard_state (ops : List Op) (f : IndexFile) :
    ((ops.foldl IndexFile.step f).idx.term, (ops.foldl IndexFile.step f).idx.vote) =
      (lastHard ops).getD (f.idx.term, f.idx.vote) := by
  induction ops generalizing f with
  | nil => rfl
  | cons op ops ih =>
    rw [List.foldl_cons, ih]
    cases op with
    | hardState t v => rw [lastHard, Option.getD_or]; rfl
    | _ => rfl

/-- **the vote survives every history and restart**: whatever else rewrote the file afterwards, a restart
reads the term and vote of the last acknowledged `save_hard_state` -/
theorem restart_reads_last_hard_state (ops : List Op) (f : IndexFile) (hc : Consistent f)
    (hbig : freshLimit < f.bytes.length) (hok : HistOK f ops) :
    (init (ops.foldl IndexFile.step f).bytes).map (fun g => (g.idx.term, g.idx.vote)) =
      some ((lastHard ops).getD (f.idx.term, f.idx.vote)) := by
  rw [history_consistent ops f hc hbig hok, Option.map_some, history_hard_state]

/-- the last membership saved in a history -/
def lastMember : List Op → Option (List Nat)
  | [] => none
  | .member m _ _ :: ops => (lastMember ops).or (some m)
  | _ :: ops => lastMember ops

theorem history_member (ops : List Op) (f : IndexFile) :
    (ops.foldl IndexFile.step f).idx.member = (lastMember ops).getD f.idx.member := by
  induction ops generalizing f with
  | nil => rfl
  | cons op ops ih =>
    rw [List.foldl_cons, ih]
    cases op with
    | member m a ad => rw [lastMember, Option.getD_or]; rfl
    | _ => rfl

theorem restart_reads_last_membership (ops : List Op) (f : IndexFile) (hc : Consistent f)
    (hbig : freshLimit < f.bytes.length) (hok : HistOK f ops) :
    (init (ops.foldl IndexFile.step f).bytes).map (·.idx.member) =
      some ((lastMember ops).getD f.idx.member) := by
  rw [history_consistent ops f hc hbig hok, Option.map_some, history_member]

/-- `addrInsert` as a map update: its filter is `AL.erase`, `lookup` is `AL.get?` -/
theorem lookup_addrInsert (m : List (Nat × List Nat)) (a : Nat × List Nat) (j : Nat) :
    (addrInsert m a).lookup j = if j = a.1 then some a.2 else m.lookup j := by
  have he : m.filter (·.1 != a.1) = AL.erase m a.1 := by
    rw [AL.erase_eq_filter]
    exact List.filter_congr fun e _ => by rw [Bool.eq_iff_iff, bne_iff_ne, decide_eq_true_iff]
  rw [addrInsert, he, List.lookup_append, ← AL.get?_eq_lookup, AL.get?_erase, ← AL.get?_eq_lookup,
    ← AL.get?_eq_lookup]
  by_cases hj : j = a.1
  · subst hj; simp [AL.get?]
  · simp [AL.get?, hj, Ne.symm hj]

/-- an address once added is read back until the same node's address is replaced or a membership save
replaces the whole address map -/
theorem addAddr_lookup (f : IndexFile) (i : Nat) (a : List Nat) :
    (f.step (.addAddr i a)).idx.addrs.lookup i = some a := by
  simp [IndexFile.step, IndexFile.writeIndex, lookup_addrInsert]

theorem addAddr_keeps_others (f : IndexFile) (i j : Nat) (a : List Nat) (h : j ≠ i) :
    (f.step (.addAddr i a)).idx.addrs.lookup j = f.idx.addrs.lookup j := by
  simp [IndexFile.step, IndexFile.writeIndex, lookup_addrInsert, h]

/-- **from the very first start**: after any history of saves on a store that began with no file at all,
every restart reads the term and vote saved last (nothing saved: the defaults 0/0) -/
theorem from_new_file_restart_reads_last_hard_state (ops : List Op) (hok : HistOK newFile ops) :
    (init (ops.foldl IndexFile.step newFile).bytes).map (fun g => (g.idx.term, g.idx.vote)) =
      some ((lastHard ops).getD (0, 0)) :=
  restart_reads_last_hard_state ops newFile fresh_start.2.1 fresh_start.2.2 hok

theorem from_new_file_restart_reads_last_membership (ops : List Op) (hok : HistOK newFile ops) :
    (init (ops.foldl IndexFile.step newFile).bytes).map (·.idx.member) = some ((lastMember ops).getD []) :=
  restart_reads_last_membership ops newFile fresh_start.2.1 fresh_start.2.2 hok

/-! ### the defects that were repaired (kept as theorems about the old rules) -/

/-- with the old threshold (`len <= 20`) a file that only holds a vote is wiped on restart -/
theorem old_threshold_forgets_vote :
    let f1 := newFile.step (.hardState 1 1)
    (initL 20 f1.bytes).map (·.idx.vote) = some 0 ∧ (initL freshLimit f1.bytes).map (·.idx.vote) = some 1 := by
  decide

/-- with `len <= 9` a last-applied index saved into the file that holds the empty record was reset -/
theorem threshold_9_forgets_applied :
    let f1 := newFile.step (.applied 7)
    (initL 9 f1.bytes).map (·.applied) = some 0 ∧ (initL freshLimit f1.bytes).map (·.applied) = some 7 := by
  decide

/-- the all-default record after a longer one: the frame is the single byte 0, which `read_len` alone takes
for "end of records" – `parseRec` without its first branch fails on exactly this file -/
theorem empty_record_after_longer_one :
    let f1 := (newFile.step (.addAddr 1 [104])).step (.member [] none (some []))
    f1.idx = {} ∧ readLen ⟨f1.bytes.drop 8, 0⟩ = none ∧ (init f1.bytes).map (·.idx) = some {} := by
  decide

/-! ### non-vacuity: the codec assumption, the size fact and `HistOK` are met by a full record and a mixed history -/
def sampleIdx : RaftIdx :=
  { term := 3, vote := 2, member := [1, 2, 3], addrs := [(1, [97]), (2, [98, 99])],
    logs := [⟨1, 0, 1, 5, 0, false, false⟩] }

example : RoundTrips sampleIdx ∧ Fits sampleIdx := by
  unfold RoundTrips Fits; decide

example : HistOK newFile [.hardState 1 1, .applied 5, .member [1] none none] := by
  simp only [HistOK, StepOK, RoundTrips, Fits]; decide

end RNacos.Props.C05
