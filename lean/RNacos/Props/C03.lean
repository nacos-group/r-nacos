import RNacos.Lemmas.MgrSplit
import RNacos.Lemmas.LogView
/-!
# C03 — Raft log: truncation removes exactly the suffix; log stays appendable

Same model and invariant as C02 (`RNacos/Model/LogFile.lean`, `WF f es`).  The theorems are stated for every
file that holds some entry list `es` – any number of index entries, any record sizes, any cursor state, freshly
written or reopened – and every cut point `k`.
-/
namespace RNacos.Props.C03
open RNacos.LogFile RNacos.Spec.Stream

/-- **the cut**: deleting from `k` (inside the log) leaves a file that holds exactly the entries below `k` -/
theorem truncate_keeps_prefix (f : LogFile) (es : List Rec) (k : Nat) (h : WF f es)
    (hs : f.startIndex ≤ k) (hlt : k < endIndex f) :
    ∃ f', strip f k = some f' ∧ WF f' (es.take (k - f.startIndex)) ∧ endIndex f' = k :=
  strip_wf f es k h hs hlt

/-- every entry below `k` is still there, unchanged -/
theorem below_cut_unchanged (es : List Rec) (n i : Nat) (hi : i < n) (hn : n ≤ es.length) :
    (es.take n)[i]'(by simp; omega) = es[i]'(by omega) :=
  List.getElem_take

/-- `strip_wf` for the file that `strip` has returned -/
theorem cut_holds {f : LogFile} {es : List Rec} {k : Nat} (h : WF f es) (hs : f.startIndex ≤ k) (hlt : k < endIndex f)
    {f' : LogFile} (hf' : strip f k = some f') : WF f' (es.take (k - f.startIndex)) ∧ endIndex f' = k := by
  obtain ⟨_, hg, hw⟩ := strip_wf f es k h hs hlt
  exact Option.some.inj (hg.symm.trans hf') ▸ hw

/-- **entries at or above `k` are unreadable**: whatever is read afterwards has an index below `k` -/
theorem above_cut_unreadable (f : LogFile) (es : List Rec) (k : Nat) (h : WF f es)
    (hs : f.startIndex ≤ k) (hlt : k < endIndex f) (f' : LogFile) (hf' : strip f k = some f') (a b : Nat)
    (rs : List Rec) (hr : readRecords f' a b = some rs) : ∀ r ∈ rs, r.index < k := by
  obtain ⟨hw, he⟩ := cut_holds h hs hlt hf'
  rw [read_wf f' _ a b hw] at hr
  cases hr
  intro r hr
  obtain ⟨i, hi, rfl⟩ := List.getElem_of_mem (List.mem_of_mem_drop (List.mem_of_mem_take hr))
  rw [hw.idx i hi, ← he, endIndex_wf f' _ hw]
  exact Nat.add_lt_add_left hi _

/-- a truncation never fills a file: the index cursor and the data cursor only move back -/
theorem strip_not_full (f : LogFile) (es : List Rec) (k : Nat) (h : WF f es) (hs : f.startIndex ≤ k)
    (hlt : k < endIndex f) (f' : LogFile) (hf' : strip f k = some f') (hfull : isFull f = false) :
    isFull f' = false := by
  obtain ⟨hw, _⟩ := cut_holds h hs hlt hf'
  have hn : k - f.startIndex ≤ es.length := by have := endIndex_wf f es h; omega
  rw [h.isFull] at hfull
  rw [hw.isFull, (strip_static hf').ivl, (strip_static hf').area, offsetOf_take_end es _]
  exact ⟨Nat.lt_of_le_of_lt (Nat.add_le_add_right (Nat.add_le_add_left (idxBytes_mono _ (List.take_prefix _ es)) _) _) hfull.1,
    Nat.lt_of_le_of_lt (offsetOf_mono es _ _ hn) hfull.2⟩

/-- **the log stays appendable**: the next append at index `k` is accepted and becomes the last entry -/
theorem append_at_cut_accepted (f : LogFile) (es : List Rec) (k : Nat) (h : WF f es) (hs : f.startIndex ≤ k)
    (hlt : k < endIndex f) (f' : LogFile) (hf' : strip f k = some f') (hfull : isFull f = false)
    (r : Rec) (hr : RecOK r) (hk : r.index = k) (hsz : f'.dataCursor + (frame (recBody r)).length < 2 ^ 64) :
    WF (write f' r).1 (es.take (k - f.startIndex) ++ [r]) ∧
      ((write f' r).2 = .success ∨ (write f' r).2 = .successToEnd) := by
  obtain ⟨hw, he⟩ := cut_holds h hs hlt hf'
  have hnf := strip_not_full f es k h hs hlt f' hf' hfull
  have hidx : r.index = endIndex f' := by rw [he]; exact hk
  exact ⟨write_wf f' _ r hw hnf hidx hr hsz, (write_reports f' r hnf hidx).2⟩

/-- **before and after a restart, and whatever is appended later**: the removed suffix never comes back.
After the cut, any further history – appends of shorter, equal or longer records, more cuts, reopens – leaves
a file that holds exactly the specified log, which no longer contains the removed entries. -/
theorem removed_never_returns (f : LogFile) (es : List Rec) (k : Nat) (h : WF f es) (hs : f.startIndex ≤ k)
    (hlt : k < endIndex f) (f' : LogFile) (hf' : strip f k = some f') (ops : List Op) (hok : HistOK f' ops) :
    WF (run (f', es.take (k - f.startIndex)) ops).1 (run (f', es.take (k - f.startIndex)) ops).2 := by
  exact run_wf ops f' _ (cut_holds h hs hlt hf').1 hok

/-- the term reported after the cut is that of the last remaining entry -/
theorem truncate_reports_last_term (f : LogFile) (es : List Rec) (k : Nat) (h : WF f es)
    (hs : f.startIndex < k) (hlt : k < endIndex f) (hsp : f.splitOff < k) (f' : LogFile) (hf' : strip f k = some f')
    (hne : es.take (k - f.startIndex) ≠ []) :
    f'.lastTerm = ((es.take (k - f.startIndex)).getLast hne).term := by
  obtain ⟨g, hg, hw, hek, hsp'⟩ := strip_eq f es k h (Nat.le_of_lt hs) hlt
  rw [hf'] at hg; cases hg
  exact refreshTerm_lastTerm g _ k hw hne hek.symm (by rw [hek, hsp']; exact hsp)

/-- a cut at or beyond the end is a no-op; a cut below the file's first index is refused, the file unchanged -/
theorem truncate_outside (f : LogFile) (es : List Rec) (k : Nat) (h : WF f es) :
    (endIndex f ≤ k → strip f k = some f) ∧ (k < f.startIndex → strip f k = none) :=
  ⟨strip_noop f k, strip_below f es k h⟩

/-- non-vacuity of `truncate_keeps_prefix`, on a concrete file: its hypotheses are met (the three appends move cursors
only, so they are evaluated), and what is read after the cut is what it says -/
example :
    let f := (run (create 1 0 0, []) [.append ⟨1, 1, [7]⟩, .append ⟨2, 1, [8, 8]⟩, .append ⟨3, 2, [9]⟩]).1
    f.startIndex ≤ 2 ∧ 2 < endIndex f ∧ (strip f 2).isSome ∧
    ((strip f 2).map fun g => readRecords g 0 9) = some (some [⟨1, 1, [7]⟩]) := by
  intro f
  have h0 := create_wf_default 1 0 0 (by omega) (by omega)
  have hw : WF f _ := run_wf _ _ _ h0 (run_view _ _ _ h0 (by decide)).1
  obtain ⟨g, hg, hwg, he⟩ := truncate_keeps_prefix f _ 2 hw (by decide) (by decide)
  refine ⟨by decide, by decide, by rw [hg]; rfl, ?_⟩
  rw [hg, Option.map_some, read_wf g _ 0 9 hwg, he, (strip_static hg).start, (strip_static hg).split]
  decide

end RNacos.Props.C03

/-! ## the whole log: several files (manager level) -/
namespace RNacos.Props.C03
open RNacos.LogManager RNacos.LogStore

/-- **`delete_logs_from(k)` refines the specification's `deleteFrom`, in one file or in several**: exactly the entries
from `k` on disappear, the next append is expected at `k` (or where it was, for a cut beyond the end), the file that
holds the cut is the open log - for every cut that is not below a compaction / snapshot pointer (`hk`, `hk0`: Raft
cuts only uncommitted entries) -/
theorem manager_delete_refines (fs : List File) (hc : Chain fs) (hne : fs ≠ []) (k t : Nat) (p : Option (Nat × Nat))
    (hk : ∀ f ∈ fs, f.start < f.splitOff → f.splitOff ≤ k)
    (hk0 : ∀ f0, fs.head? = some f0 → f0.start ≤ k) :
    Chain (strip ⟨fs, p⟩ k).files ∧
    absEnts (strip ⟨fs, p⟩ k).files = (deleteFrom { ents := absEnts fs, next := absNext fs, lastTerm := t, prePtr := p } k).ents ∧
    absNext (strip ⟨fs, p⟩ k).files = (deleteFrom { ents := absEnts fs, next := absNext fs, lastTerm := t, prePtr := p } k).next :=
  strip_spec fs _ p ⟨hc, rfl, rfl⟩ hne k hk hk0

/-- **compaction / installation pointer**: everything up to the pointer's index disappears, the pointer takes its
place, later entries and the next expected index are untouched - for a pointer inside the log (`hend`) and not below
the previous one (`hlo`).  At the excluded point - a pointer beyond the end of a non-empty log, i.e. a snapshot installed
on a node that fell behind - the unrepaired code kept the old log and refused every later entry (defect F28) -/
theorem manager_pointer_refines (full : File → Bool) (hfresh : ∀ f : File, f.recs = [] → full f = false)
    (fs : List File) (hc : Chain fs) (i t lt : Nat) (p : Option (Nat × Nat))
    (hend : ∀ l, fs.getLast? = some l → i + 1 ≤ endIdx l)
    (hlo : ∀ f0, fs.head? = some f0 → f0.splitOff ≤ i + 1) :
    Chain (savePointerFs full fs i t) ∧
    absEnts (savePointerFs full fs i t) = (LogStore.savePointer { ents := absEnts fs, next := absNext fs, lastTerm := lt, prePtr := p } i t).ents ∧
    absNext (savePointerFs full fs i t) = (LogStore.savePointer { ents := absEnts fs, next := absNext fs, lastTerm := lt, prePtr := p } i t).next :=
  savePointer_spec full hfresh fs _ ⟨hc, rfl, rfl⟩ i t hend hlo

/-- **snapshot installation** (the log part of `finalize_snapshot_installation`, C08): for EVERY catalogue of files the
node held - no hypothesis on it at all: empty, ending below the snapshot (F28), reaching beyond it (F29), holding
pointers of its own - the log is afterwards the list specification's: the snapshot's pointer alone, and the entry after
the snapshot is the one accepted next; the catalogue invariant is re-established -/
theorem manager_install_refines (full : File → Bool) (hfresh : ∀ f : File, f.recs = [] → full f = false)
    (m : Mgr) (s : LogStore.Store) (i t : Nat) :
    Chain (install full m i t).files ∧
    absEnts (install full m i t).files = (LogStore.install s i t).ents ∧
    absNext (install full m i t).files = (LogStore.install s i t).next ∧
    (install full m i t).prePtr = m.prePtr := by
  have h := writeOne_nil_ptr full hfresh i t
  exact ⟨h.1, h.2.1, h.2.2, rfl⟩

/-- ... and the node is appendable right behind the snapshot, whatever it held: the leader's next entry is accepted and
is the log's second entry -/
theorem append_after_install_accepted (full : File → Bool) (hfresh : ∀ f : File, f.recs = [] → full f = false)
    (m : Mgr) (i t : Nat) (e : Ent) (he : e.index = i + 1) :
    (writeOne full (install full m i t).files e 2).2 = .ok ∧
    absEnts (writeOne full (install full m i t).files e 2).1 = [ptrEnt i t, e] := by
  obtain ⟨hc, hents, hnext, -⟩ := manager_install_refines full hfresh m {} i t
  have h := writeOne_spec full hfresh _ _ ⟨hc, hents, hnext⟩ e
  have hacc : (LogStore.install {} i t).next = some e.index := by rw [he]; rfl
  simp only [append, hacc, or_true, if_true] at h
  exact ⟨h.2.2 trivial, h.1.2.1⟩

/- non-vacuity: a log in two files, cut in the first one: the second file goes, the first is the open log again and
takes the next append at the cut -/
def full2 : File → Bool := fun f => decide (f.recs.length ≥ 2)
def twoFiles : List File := (writeBatchFs full2 [] (mkEnts 1 1 3 5 0)).1

example :
    twoFiles.length = 2 ∧ (strip ⟨twoFiles, none⟩ 2).files.length = 1 ∧
      absEnts (strip ⟨twoFiles, none⟩ 2).files = mkEnts 1 1 1 5 0 ∧
      (writeOne full2 (strip ⟨twoFiles, none⟩ 2).files ⟨2, 2, .normal 1 9⟩ 2).2 = .ok := by
  decide

/-- non-vacuity of the installation theorems: a snapshot at index 7 installed over a two-file log that ends at 3 (the
F28 situation) and one at index 2 installed under it (F29): the pointer alone remains, the hypothesis `hfresh` holds of
the fullness rule used, and the leader's next entry is taken -/
example :
    (∀ f : File, f.recs = [] → full2 f = false) ∧
    absEnts (LogManager.install full2 ⟨twoFiles, none⟩ 7 3).files = [ptrEnt 7 3] ∧
    absEnts (LogManager.install full2 ⟨twoFiles, none⟩ 2 1).files = [ptrEnt 2 1] ∧
    (writeOne full2 (LogManager.install full2 ⟨twoFiles, none⟩ 7 3).files ⟨8, 3, .normal 1 9⟩ 2).2 = .ok ∧
    (writeOne full2 (LogManager.install full2 ⟨twoFiles, none⟩ 7 3).files ⟨9, 3, .normal 1 9⟩ 2).2 = .indexError := by
  refine ⟨fun f h => by simp [full2, h], ?_, ?_, ?_, ?_⟩ <;> decide

end RNacos.Props.C03
