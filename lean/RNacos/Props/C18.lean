import RNacos.Model.Privilege
/-!
# C18 — namespace-scoped users never see or change data outside their namespaces

The decision every console data handler has to take is `NamespacePrivilegeGroup::check_permission`; this file
proves that the decision is the one the property states, for every stored privilege group and every way a
namespace can be spelled.  Whether *every handler takes it* is a statement about ~65 call sites: it is settled per
endpoint by the sweep of the real console (correspondence `priv`), and the handlers that do not are listed as
known findings.
-/
namespace RNacos.Props.C18
open RNacos.Privilege

/-- the specification: permitted = (all or listed) in the whitelist and not (all or listed) in the blacklist – of an
enabled group; a disabled group permits everything -/
def Permitted (s : Stored) (k : Ns) : Prop :=
  s.enabled = false ∨
  ((s.whitelistIsAll = true ∨ canon k ∈ s.whitelist) ∧ ¬ (s.blacklistIsAll = true ∨ canon k ∈ s.blacklist))

/-- `build` followed by `check` as one formula over the stored record: every theorem about `(build s).check` rewrites
with it -/
theorem check_build (s : Stored) (k : Ns) :
    (build s).check k = (!s.enabled || (s.whitelistIsAll || s.whitelist.contains (canon k)) &&
      !(s.blacklistIsAll || s.blacklist.contains (canon k))) := by
  cases s with
  | mk en wa ba w b => cases en <;> rfl

/-- **the check is the specification** -/
theorem check_iff_permitted (s : Stored) (k : Ns) : (build s).check k = true ↔ Permitted s k := by
  rw [check_build, Permitted]
  cases s.enabled <;> simp

/-- **the blacklist wins**: a blacklisted namespace is refused even if whitelisted (or whitelist = all) -/
theorem blacklist_wins (s : Stored) (k : Ns) (he : s.enabled = true)
    (hb : s.blacklistIsAll = true ∨ canon k ∈ s.blacklist) : (build s).check k = false := by
  rw [check_build]
  rcases hb with hb | hb <;> simp [he, hb]

/-- an empty whitelist (and not "all") permits nothing -/
theorem empty_whitelist_permits_nothing (s : Stored) (k : Ns) (he : s.enabled = true)
    (hw : s.whitelistIsAll = false) (hl : s.whitelist = []) : (build s).check k = false := by
  simp [check_build, he, hw, hl]

/-- **the default namespace is like any other**: every spelling of it – "", "public" – is decided by the same
list entry ("" in the lists), neither more nor less permitted than a named namespace with the same listing -/
theorem default_spellings_agree (g : Group) : g.check [] = g.check publicName := by
  unfold Group.check canon isDefault; simp

theorem default_needs_listing (s : Stored) (he : s.enabled = true) (hw : s.whitelistIsAll = false)
    (hn : ([] : Ns) ∉ s.whitelist) : (build s).check publicName = false ∧ (build s).check [] = false := by
  simp [check_build, he, hw, hn, canon, isDefault]

/-- a named namespace is never confused with the default one -/
theorem named_is_itself (k : Ns) (h : isDefault k = false) : canon k = k := by
  unfold canon; simp [h]

/-- an omitted namespace parameter is decided by the handler's default, a present one by the check -/
theorem option_value (g : Group) (k : Option Ns) (d : Bool) :
    g.checkOpt k d = (match k with | some k => g.check k | none => d) := rfl

/-- a user whose group is not enabled is unrestricted -/
theorem disabled_is_unrestricted (s : Stored) (k : Ns) (h : s.enabled = false) : (build s).check k = true := by
  simp [check_build, h]

/-! ### changing a user's group (`UserManager::update_user`, what the next login copies into the session) -/

theorem updateUser_enabled (s : Stored) (p : Param) : (updateUser s (some p)).enabled = true := rfl

/-- every list and flag that an update names replaces the stored one - an empty list included -/
theorem update_sets_given_fields (s : Stored) (p : Param) :
    (∀ w, p.whitelist = some w → (updateUser s (some p)).whitelist = w) ∧
    (∀ b, p.blacklist = some b → (updateUser s (some p)).blacklist = b) ∧
    (∀ x, p.whitelistIsAll = some x → (updateUser s (some p)).whitelistIsAll = x) ∧
    (∀ x, p.blacklistIsAll = some x → (updateUser s (some p)).blacklistIsAll = x) := by
  refine ⟨?_, ?_, ?_, ?_⟩ <;> intro v hv <;> simp [updateUser, hv]

/-- and what it does not name stays as stored (for an enabled group) -/
theorem update_keeps_unnamed_fields (s : Stored) (p : Param) (he : s.enabled = true) :
    (p.whitelist = none → (updateUser s (some p)).whitelist = s.whitelist) ∧
    (p.blacklist = none → (updateUser s (some p)).blacklist = s.blacklist) ∧
    (p.whitelistIsAll = none → (updateUser s (some p)).whitelistIsAll = s.whitelistIsAll) ∧
    (p.blacklistIsAll = none → (updateUser s (some p)).blacklistIsAll = s.blacklistIsAll) := by
  refine ⟨?_, ?_, ?_, ?_⟩ <;> intro hv <;> simp [updateUser, hv, build, he]

/-- **revoking works**: after an update that empties the whitelist of a user who is not whitelisted for everything,
the session of the next login is permitted no namespace at all -/
theorem cleared_whitelist_permits_nothing (s : Stored) (p : Param) (hw : p.whitelist = some [])
    (hall : (updateUser s (some p)).whitelistIsAll = false) (k : Ns) :
    (build (updateUser s (some p))).check k = false :=
  empty_whitelist_permits_nothing _ k (updateUser_enabled s p) hall ((update_sets_given_fields s p).1 [] hw)

/-- a namespace that an update puts on the blacklist is excluded from then on, whatever the whitelist says -/
theorem update_blacklist_excludes (s : Stored) (p : Param) (b : List Ns) (hb : p.blacklist = some b) (k : Ns)
    (hk : canon k ∈ b) : (build (updateUser s (some p))).check k = false :=
  blacklist_wins _ k (updateUser_enabled s p) (Or.inr ((update_sets_given_fields s p).2.1 b hb ▸ hk))

/-- a new user without a privilege parameter is unrestricted; with one, the lists are exactly the given ones -/
theorem add_user_lists (p : Param) :
    (addUser (some p)).whitelist = p.whitelist.getD [] ∧ (addUser (some p)).blacklist = p.blacklist.getD [] ∧
    ∀ k, (build (addUser none)).check k = true := by
  refine ⟨rfl, rfl, fun k => by simp [check_build, addUser]⟩

/-! ### non-vacuity -/
example : (build ⟨true, false, false, [[110, 115, 97]], []⟩).check [110, 115, 97] = true ∧
    (build ⟨true, false, false, [[110, 115, 97]], []⟩).check [110, 115, 98] = false ∧
    (build ⟨true, true, false, [], [[110, 115, 97]]⟩).check [110, 115, 97] = false := by decide

example : (build (updateUser ⟨true, false, false, [[110, 115, 97]], []⟩ (some { whitelist := some [] }))).check [110, 115, 97] = false := by decide

end RNacos.Props.C18
