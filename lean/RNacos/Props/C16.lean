import RNacos.Model.Auth
import RNacos.Props.OracleTables
/-!
# C16 — with auth on, no data endpoint (HTTP or gRPC) is served without a valid token

The HTTP theorem quantifies over **every path** (not only registered routes): any path containing
`/nacos/` or `/rnacos/v1/` in any letter case, other than the exceptions named in the property, is
refused unless the token resolves to a session.  Exceptions and gRPC type classes are hand-written
from the property text (`OracleTables.lean`); the code's lists come from `Gen/Tables.lean`.
-/
namespace RNacos.Props.C16
open RNacos.Auth RNacos.Gen RNacos.Props.Oracle

/-- the property's own notion of "under /nacos/ or /rnacos/v1/" (any spelling of letter case) -/
def underApi (path : Str) : Bool :=
  containsCI [47, 110, 97, 99, 111, 115, 47] path ||
  containsCI [47, 114, 110, 97, 99, 111, 115, 47, 118, 49, 47] path

theorem needles_cover_property {path : Str} (hu : underApi path = true) :
    (openapiNeedles.any fun n => containsCI n path) = true := by
  simpa [underApi, openapiNeedles] using hu

/-- the code's ignore list grants nothing beyond the property's exceptions -/
theorem ignore_within_exceptions : (openapiIgnorePath.all fun p => openapiExceptions.contains p) = true := by
  decide +kernel

theorem contains_of_all {sub sup : List Str} (h : (sub.all fun p => sup.contains p) = true) {x : Str}
    (hx : sub.contains x = true) : sup.contains x = true :=
  List.all_eq_true.mp h x (List.contains_iff_mem.mp hx)

theorem not_contains_of_all {sub sup : List Str} (h : (sub.all fun p => sup.contains p) = true) {x : Str}
    (hx : sup.contains x = false) : sub.contains x = false :=
  Bool.eq_false_iff.2 (mt (contains_of_all h) (Bool.eq_false_iff.1 hx))

theorem ne_of_contains {l : List Str} {a b : Str} (ha : l.contains a = false) (hb : l.contains b = true) : a ≠ b :=
  fun e => Bool.false_ne_true (ha.symm.trans (e ▸ hb))

theorem check_path_of_under {path : Str} (hu : underApi path = true)
    (hex : openapiExceptions.contains path = false) : openapiIsCheckPath path = true := by
  unfold openapiIsCheckPath
  rw [not_contains_of_all ignore_within_exceptions hex, needles_cover_property hu]
  rfl

theorem openapiDecide_checked {path : Str} (hc : openapiIsCheckPath path = true) (token : Str)
    (hasSession : Str → Bool) : openapiDecide true path token hasSession =
      if token.isEmpty = false ∧ hasSession token = true then .pass else .forbid := by
  unfold openapiDecide
  rw [hc]
  cases token.isEmpty <;> cases hasSession token <;> rfl

/-- **HTTP: every path under the API prefixes, except the property's exceptions, answers 403 unless the
token resolves to a session** – whatever carrier the token came in, an empty token and a token without a
session (wrong / expired) are both "no token". -/
theorem http_guarded (path : Str) (hu : underApi path = true)
    (hex : openapiExceptions.contains path = false) (token : Str) (hasSession : Str → Bool)
    (hno : token.isEmpty = true ∨ hasSession token = false) :
    openapiDecide true path token hasSession = .forbid := by
  rw [openapiDecide_checked (check_path_of_under hu hex), if_neg]
  intro h
  rcases hno with e | e <;> simp [e] at h

/-- **the same for every spelling of the path on the wire**: the decision is taken on the path the
router matches (percent-encoded characters decoded, except `%`, `/`, `+`), so no encoding of a
character can take a request past the check and still reach a handler. -/
theorem http_guarded_raw (raw : Str) (hu : underApi (requote raw) = true)
    (hex : openapiExceptions.contains (requote raw) = false) (token : Str) (hasSession : Str → Bool)
    (hno : token.isEmpty = true ∨ hasSession token = false) :
    openapiDecideRaw true raw token hasSession = .forbid :=
  http_guarded (requote raw) hu hex token hasSession hno

/-- and it is served only through a session -/
theorem http_pass_needs_session (path : Str) (hu : underApi path = true)
    (hex : openapiExceptions.contains path = false) (token : Str) (hasSession : Str → Bool)
    (hp : openapiDecide true path token hasSession = .pass) :
    token.isEmpty = false ∧ hasSession token = true := by
  rw [openapiDecide_checked (check_path_of_under hu hex)] at hp
  split at hp
  · assumption
  · cases hp

/-- no carrier is consulted after an earlier one is present, and a GET body is never read -/
theorem token_carrier_order (a h q b : Option Str) (isGet : Bool) :
    openapiToken a h q b isGet =
      match a, h, q with
      | some t, _, _ => t
      | none, some t, _ => t
      | none, none, some t => t
      | none, none, none => if isGet then [] else b.getD [] := by
  unfold openapiToken; cases a <;> cases h <;> cases q <;> rfl

theorem grpc_ignore_within_oracle : (grpcIgnoreAuth.all fun t => grpcNoSessionTypes.contains t) = true := by
  decide +kernel

theorem grpc_cluster_covers_oracle : (grpcClusterTypes.all fun t => grpcCluster.contains t) = true := by
  decide +kernel

theorem grpc_cluster_within_ignore : (grpcClusterTypes.all fun t => grpcIgnoreAuth.contains t) = true := by
  decide +kernel

theorem grpc_data_need_session : ∀ t ∈ grpcDataTypes, grpcNoSessionTypes.contains t = false := by decide +kernel

theorem server_check_no_session : grpcNoSessionTypes.contains grpcServerCheck = true := by decide

theorem server_check_not_cluster : grpcClusterTypes.contains grpcServerCheck = false := by decide

/-- **gRPC: with auth on, every request type other than server/health check and the cluster-internal
types is refused (403) without a user session** – for *any* type string, registered or not. -/
theorem grpc_refused_without_session (clusterCfg url : Str) (clusterValid : Bool)
    (hdata : grpcNoSessionTypes.contains url = false) :
    grpcDecide true clusterCfg url false clusterValid = .forbidden403 := by
  unfold grpcDecide
  rw [beq_false_of_ne (ne_of_contains hdata server_check_no_session),
    not_contains_of_all grpc_ignore_within_oracle hdata]
  rfl

/-- in particular every data request type of the property -/
theorem grpc_data_requests_refused :
    (grpcDataTypes.all fun t => grpcDecide true [] t false false == .forbidden403) = true :=
  List.all_eq_true.mpr fun t ht =>
    beq_iff_eq.mpr (grpc_refused_without_session [] t false (grpc_data_need_session t ht))

-- the theorem above would hold of a misspelt name as well (any unknown type is refused); this one ties the property's
-- list to the types the server has handlers for
theorem grpc_data_types_registered : (grpcDataTypes.all fun t => grpcHandlers.contains t) = true := by
  decide +kernel

/-- **cluster-internal requests are refused without the cluster token when one is configured** -/
theorem cluster_requests_need_token (enableAuth : Bool) (cfg url : Str) (hasSession : Bool)
    (hcfg : cfg.isEmpty = false) (hcl : grpcClusterTypes.contains url = true) :
    grpcDecide enableAuth cfg url hasSession false = .clusterTokenInvalid500 := by
  unfold grpcDecide
  rw [beq_false_of_ne (ne_of_contains server_check_not_cluster hcl).symm,
    contains_of_all grpc_cluster_within_ignore hcl, hcfg, contains_of_all grpc_cluster_covers_oracle hcl]
  cases enableAuth <;> rfl

theorem grpcClusterBranch_eq (cfg : Str) (ch : Option Str) :
    grpcClusterBranch cfg ch = (false, !cfg.isEmpty && ch == some cfg) := by
  unfold grpcClusterBranch; cases cfg.isEmpty <;> cases ch <;> rfl

theorem grpcFill_eq (ea : Bool) (ut : Option Str) (hs : Str → Bool) (cfg : Str) (ch : Option Str) :
    grpcFill ea ut hs cfg ch =
      match ea, ut with
      | true, some (b :: t) => (hs (b :: t), false)
      | _, _ => (false, !cfg.isEmpty && ch == some cfg) := by
  unfold grpcFill
  rw [grpcClusterBranch_eq]
  cases ea <;> rcases ut with _ | _ | ⟨b, t⟩ <;> rfl

/-- a request without a session header never obtains a session -/
theorem grpc_no_token_no_session (enableAuth : Bool) (hasSession : Str → Bool) (cfg : Str) (ch : Option Str) :
    (grpcFill enableAuth none hasSession cfg ch).1 = false := by
  rw [grpcFill_eq]; cases enableAuth <;> rfl

/-- an empty user token or one without a session gives no session -/
theorem grpc_bad_token_no_session (t : Str) (hasSession : Str → Bool) (cfg : Str) (ch : Option Str)
    (h : t.isEmpty = true ∨ hasSession t = false) : (grpcFill true (some t) hasSession cfg ch).1 = false := by
  rw [grpcFill_eq]
  cases t with
  | nil => rfl
  | cons b t => exact h.resolve_left Bool.false_ne_true

/-- the cluster token is compared only when the request carries no user token (or auth is off); a
request that carries a user token never counts as cluster-authenticated; and it is compared for **equality** - the
configured token itself, nothing shorter, nothing longer -/
theorem cluster_token_valid_iff (enableAuth : Bool) (ut : Option Str) (hasSession : Str → Bool)
    (cfg : Str) (ch : Option Str) :
    (grpcFill enableAuth ut hasSession cfg ch).2 = true →
      cfg.isEmpty = false ∧ ch = some cfg := by
  rw [grpcFill_eq]; split <;> simp

/-! ## non-vacuity -/
example : underApi [47, 78, 65, 67, 79, 83, 47, 118, 49, 47, 99, 115] = true ∧
    openapiExceptions.contains [47, 78, 65, 67, 79, 83, 47, 118, 49, 47, 99, 115] = false := by decide
example : requote [47, 37, 54, 69, 97, 99, 111, 115, 47, 118, 49, 47, 99, 115] =
    [47, 110, 97, 99, 111, 115, 47, 118, 49, 47, 99, 115] := by decide
example : grpcDecide true [] [73, 110, 115, 116, 97, 110, 99, 101, 82, 101, 113, 117, 101, 115, 116] true false =
    .dispatched := by decide +kernel

end RNacos.Props.C16
