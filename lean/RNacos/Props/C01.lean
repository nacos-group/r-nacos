import RNacos.Lemmas.NsRound
import RNacos.Lemmas.CompRound
import RNacos.Lemmas.NamingSnap
import RNacos.Props.C11
import RNacos.Props.C07
/-!
# C01 — served state survives restart: snapshot plus log replay reproduces it exactly

A restart serves `load (snapshot at c) ; replay (c, last_applied]`.  This file proves the composition:

* `restart_reproduces` – for **any** behaviour of the components: if loading a component's snapshot gives back the
  state it was taken from (`load s = s`, the per-component round trip) then snapshot-at-any-point + replay of the
  suffix equals having applied the whole sequence.  It rests on C07's regenerated tables (replay = leader path).
  That the log suffix read back is the one that was appended is C02/C03, that `last_applied`, the snapshot and
  log catalogue survive is C05.
* the round trip itself for the configuration component, on C09's model: `config_value_roundtrip`,
  `get_after_snapshot_load`, and that every value the apply path produces is of the round-tripping kind
  (`publish_snapshotable`, `import_snapshotable`).  The caveat is kept visible: a *temporary* value
  (`SetTmpValue`, not a Raft request) is written into the snapshot as if stored (`tmp_value_not_roundtripped`).
* the round trips of four more components, each on a model of its own: namespaces, replicated sequences, the user and
  cache tables, the registry's persistent instances (the sections below).

The encoders of the remaining two (MCP, the direct cache) are not modelled; their round trip is the hypothesis
`load s = s` here and is checked by the `apply` correspondence (three real nodes: dumps of the served state before and
after compaction + restart are compared).
-/
namespace RNacos.Props.C01
open RNacos.Apply RNacos.Gen RNacos.Config

variable {α σ : Type}

/-- **restart = snapshot + replay**: for every request sequence and every compaction point -/
theorem restart_reproduces (sem : Sem α σ) (load : State σ → State σ) (hload : ∀ s, load s = s)
    (init : State σ) (rs : List (Req α)) (c : Nat) :
    restart sem leaderTable replayTable load init rs c = applyAll sem leaderTable init rs := by
  unfold restart
  rw [hload, RNacos.Props.C07.replay_same_state]
  unfold applyAll
  rw [← List.foldl_append, List.take_append_drop]

/-- several compactions and restarts in a row change nothing either -/
theorem restarts_reproduce (sem : Sem α σ) (load : State σ → State σ) (hload : ∀ s, load s = s)
    (init : State σ) (rs : List (Req α)) (cs : List Nat) :
    cs.foldl (fun st _ => load st) (applyAll sem leaderTable init rs) = applyAll sem leaderTable init rs := by
  induction cs with
  | nil => rfl
  | cons c cs ih => rw [List.foldl_cons, hload]; exact ih

/-! ### the configuration component's snapshot encoding -/

/-- what a stored configuration value must satisfy for the snapshot encoding (`ConfigValueDO`: content,
histories, type, description) to carry all of it -/
def Snapshotable (v : Value) : Prop :=
  v.tmp = false ∧ v.md5 = v.content ∧
  v.lastModified = (match v.hist.getLast? with | some h => h.time | none => 0) ∧
  v.ctype.map normType = v.ctype

/-- **value round trip**: `ConfigValueDO::from(value)` then `ConfigValue::from(do)` gives the value back -/
theorem config_value_roundtrip (v : Value) (h : Snapshotable v) :
    Value.ofImport v.content v.hist v.ctype v.desc = v := by
  obtain ⟨h1, h2, h3, h4⟩ := h
  cases v with
  | mk content md5 tmp hist ctype desc lastModified =>
  simp only at h1 h2 h3 h4
  simp only [Value.ofImport, Value.mk.injEq, true_and]
  exact ⟨h2.symm, h1.symm, h4, h3.symm⟩

/-- **served again after the load**: loading the snapshot record of a value makes `GET` return that value -/
theorem get_after_snapshot_load (s : Store) (k : Key) (v : Value) (h : Snapshotable v) :
    (s.setFull k v.content v.hist v.ctype v.desc none).get k = some v := by
  unfold Store.setFull Store.get Store.applyMark Store.putCache
  simp only [AL.get?_set_same, config_value_roundtrip v h]

/-- the type normalisation maps its own results to themselves (its image is the fixed list of lower-case literals
`json xml yaml html toml properties text`).  Core Lean's `String` functions do not reduce in the kernel, so this
is a hypothesis of the two theorems below, not a proved fact; `#eval` confirms it for the seven literals and the
`config` correspondence exercises it. -/
def NormIdem : Prop := ∀ x, normType (normType x) = normType x

/-- a value created or changed by a publish (type already normalised by the handler) round-trips -/
theorem publish_snapshotable (hn : NormIdem) (content : String) (hid : Nat) (t : Int) (u : Option String)
    (ct d : Option String) :
    Snapshotable ((Value.init content hid t u).refresh (ct.map normType) d) := by
  refine ⟨rfl, rfl, rfl, ?_⟩
  cases ct with
  | none => rfl
  | some c => simp [Value.refresh, Value.init, hn c]

theorem update_snapshotable (v : Value) (content : String) (hid : Nat) (t : Int) (u : Option String)
    (h : v.ctype.map normType = v.ctype) : Snapshotable (v.update content hid t u) := by
  refine ⟨rfl, rfl, ?_, h⟩
  simp [Value.update]

/-- an imported value (itself the decoding of a snapshot/transfer record) round-trips again -/
theorem import_snapshotable (hn : NormIdem) (content : String) (hist : List Hist) (ct d : Option String) :
    Snapshotable (Value.ofImport content hist ct d) := by
  refine ⟨rfl, rfl, rfl, ?_⟩
  cases ct with
  | none => rfl
  | some c => simp [Value.ofImport, hn c]

/-- kept visible: a temporary value is snapshotted as if it were stored – after a restart it is served as a
regular value with `last_modified = 0` (temporary values are node-local and not Raft requests, hence outside
the quantifier of this property) -/
theorem tmp_value_not_roundtripped :
    ∃ v : Value, v.tmp = true ∧ Value.ofImport v.content v.hist v.ctype v.desc ≠ v :=
  ⟨⟨"x", "x", true, [], none, none, 5⟩, rfl, by decide⟩

example : Snapshotable ((Value.init "a" 1 7 none).refresh none (some "d")) := ⟨rfl, rfl, rfl, rfl⟩

end RNacos.Props.C01

-- Each component below reopens the namespace, so that its `open` ends with it: `State` names different things in `Apply`
-- and `Namespace`, `loadSnapshot` and `buildSnapshot` in `Namespace` and `Naming`.

/-! ## the namespace component

`RNacos/Model/Namespace.lean` models `NamespaceActor` (entries with origin flags, the four Raft requests, the weak entries
of namespaces that are merely in use, snapshot build and load).  It is executed by the `apply` driver against the node
that never stops (the served list of user namespaces is part of every dump). -/
namespace RNacos.Props.C01
open RNacos.Namespace

/-- **the snapshot round trip of the namespace component** (one of the per-component hypotheses of `restart_reproduces`,
proved): a node that starts from a snapshot serves exactly the user-created namespaces - id, name, order - of the node that
wrote it, whether or not they are also in use -/
theorem namespace_component_roundtrip (s : State) (hnd : (ids s).Nodup)
    (hsys : ∀ e ∈ s, e.1 = "" → hasFlag e.2.flag fUser = false) (hpub : ∀ e ∈ s, e.1 ≠ "public") :
    userList (loadSnapshot initial (buildSnapshot s)) = userList s := by
  have hne := buildSnapshot_ids_ne s hpub
  rw [load_fresh (buildSnapshot s) initial ?_ hne, userList_append, userList_fresh, buildSnapshot_eq_userList s hsys]
  · rfl
  · exact List.nodup_cons.2 ⟨fun h => let ⟨r, hr, h0⟩ := List.mem_map.1 h; (hne r hr).2 h0, buildSnapshot_nodup s hnd⟩

/-- kept visible (known finding F32): `AddOnly` / `Update` depend on whether the weak entry of the namespace has already
arrived from the config actor -/
theorem namespace_addOnly_order_dependent :
    userList (setWeak (apply initial (.addOnly "ns2" (some "name34"))) "ns2" fConfig) ≠
    userList (apply (setWeak initial "ns2" fConfig) (.addOnly "ns2" (some "name34"))) := by
  decide

end RNacos.Props.C01

/-! ## the sequence and table components

`RNacos/Model/Components.lean` models the snapshot encoders and loaders of `SequenceDbManager` (with `id_to_bin` /
`bin_to_id` byte by byte and the `SEQ_CONFIG` branch of `RaftDataHandler::load_snapshot`) and of `TableManager` (with
the tree-name branches of `load_snapshot`).  Both are executed by the `apply` driver: the model predicts the answers of
the sequence requests and the `T_SEQUENCE` / `T_USER` / `T_CACHE` records of the node that never stops. -/
namespace RNacos.Props.C01
open RNacos.Components RNacos.Sequence

/-- **the snapshot round trip of the sequence component**: a node that starts from a snapshot holds, for every
sequence, the next-free value of the node that wrote the snapshot - whatever the iteration order of the map -/
theorem sequence_component_roundtrip (db : SeqDb) (hn : AL.NodupKeys db) (hok : SeqOK db) (k : String) :
    AL.get? (seqLoad [] (seqBuild db)) k = AL.get? db k :=
  (get?_seqLoad_build db hn hok [] k).trans (Fold.orElse_none _)

/-- hence the next id it hands out is the one the stopped node would have handed out (*issued sequence counters*) -/
theorem sequence_next_after_restart (db : SeqDb) (hn : AL.NodupKeys db) (hok : SeqOK db) (op : DbOp) :
    ((seqLoad [] (seqBuild db)).step op).2 = (db.step op).2 := by
  cases op <;> simp [SeqDb.step, SeqDb.next, sequence_component_roundtrip db hn hok]

/-- distinct keys are an invariant of the request semantics (so `hn` above holds in every reachable state) -/
theorem sequence_keys_distinct (db : SeqDb) (hn : AL.NodupKeys db) (op : DbOp) : AL.NodupKeys (db.step op).1 := by
  cases op with
  | removeId k => exact AL.nodupKeys_erase _ _ hn
  | _ => exact AL.nodupKeys_set _ _ _ hn

/-- kept visible: the snapshot loader sends the record keyed `SEQ_CONFIG` to the config actor, so a replicated
sequence of that name would restart at 1 (no code path creates one; excluded by `SeqOK`) -/
theorem sequence_named_seq_config_not_restored :
    AL.get? (seqLoad [] (seqBuild [("SEQ_CONFIG", 7)])) "SEQ_CONFIG" = none := by decide

/-- **the snapshot round trip of the table component**: every entry of the user and cache tables is read back,
nothing else appears - for any number of tables' entries and any iteration order -/
theorem table_component_roundtrip (ts : Tables) (hok : TablesOK ts) (hall : ∀ nt ∈ ts, nt.1 ∈ loadedTrees)
    (t : String) (k : Bytes) :
    tget (tblLoad [] (tblBuild ts)) t k = tget ts t k :=
  (tget_tblLoad_build ts hok hall [] t k).trans (Fold.orElse_none _)

/-- distinct table names and keys are an invariant of the table requests -/
theorem tables_ok_step (ts : Tables) (h : TablesOK ts) (r : TblReq) : TablesOK (ts.apply r) := by
  cases r with
  | set t k v =>
    refine h.set t (AL.nodupKeys_set _ _ _ ?_)
    cases hg : AL.get? ts t with
    | none => exact List.nodup_nil
    | some tb => exact h.get hg
  | remove t k =>
    simp only [Tables.apply]
    split
    · next hg => exact h.set t (AL.nodupKeys_erase _ _ (h.get hg))
    · exact h
  | drop t => exact h.erase t
  | nextId t =>
    simp only [Tables.apply]
    split
    · exact h
    · exact h.set t List.nodup_nil
  | other => exact h

theorem tables_ok_reachable (rs : List TblReq) : TablesOK (rs.foldl Tables.apply []) :=
  List.foldlRecOn rs _ ⟨by simp [AL.NodupKeys], by simp⟩ fun ts h r _ => tables_ok_step ts h r

/-- kept visible: `load_snapshot` knows the trees `T_USER` and `T_CACHE` only - the entries of a table of any other
name are written into the snapshot and dropped on load (no request in the code base creates such a table) -/
theorem other_tables_not_restored :
    tget (tblLoad [] (tblBuild [("T_OTHER", [([1], [2])])])) "T_OTHER" [1] = none := by decide

example : AL.get? (seqLoad [] (seqBuild [("seq1", 5), ("seq0", 300)])) "seq0" = some 300 := by decide
example : tget (tblLoad [] (tblBuild [("T_USER", [([107, 49], [118])]), ("T_CACHE", [([107, 49], [119])])])) "T_CACHE" [107, 49]
    = some [119] := by decide

end RNacos.Props.C01

/-! ## the registry's persistent instances

`RNacos/Model/NamingSnap.lean` models `NamingActor::{build_snapshot, load_snapshot_record}` and `Instance::{to_do,
from_do}` on the registry model of C11-C13 (the load goes through the ordinary `update_instance`). -/
namespace RNacos.Props.C01
open RNacos.Naming

/-- **the snapshot round trip of the registry**: a node that starts from a snapshot holds, under every service and
address, exactly the persistent instance the writing node held there - address, weight, enabled, health, persistence
class - and no ephemeral one; for every registry state that satisfies C11's invariant, every clock and process range -/
theorem naming_component_roundtrip (n : Naming) (hinv : Inv n) (now : Int) (hashOf : SKey → Nat) (k : SKey)
    (key : ShortKey) :
    lookDo (loadSnapshot now hashOf {} (buildSnapshot n)) k key = (lookDo n k key).filter (fun d => !d.ephemeral) :=
  (lookDo_loadSnapshot_build n hinv now hashOf {} k key).trans (Fold.orElse_none _)

/-- in particular for every state the registry can reach (C11: `inv_reachable`) -/
theorem naming_roundtrip_reachable (ops : List RNacos.Props.C11.NOp) (hok : RNacos.Props.C11.OpsOK ops) (now : Int)
    (hashOf : SKey → Nat) (k : SKey) (key : ShortKey) :
    lookDo (loadSnapshot now hashOf {} (buildSnapshot (RNacos.Props.C11.run {} ops))) k key =
      (lookDo (RNacos.Props.C11.run {} ops) k key).filter (fun d => !d.ephemeral) :=
  naming_component_roundtrip _ (RNacos.Props.C11.inv_reachable ops hok) now hashOf k key

end RNacos.Props.C01
