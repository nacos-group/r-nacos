import RNacos.Lemmas.LogView
/-!
# C04 — Raft store is crash-consistent at every file-write boundary

What is proved here is the part of the property that the single-file model can carry: an operation that issues
ONE file write is atomic under the property's crash model, so the crash points inside it are its two ends; the
invariant `WF` (C02) holds at both.  Appends that do not complete an index step and `write_last_applied_log` /
`write_index` (C05) are of this kind.  The append that completes an index step issues two writes (record, then index
entry): the crash point between them is `torn_index_step` – the recovery with its repair (`repairIndex`, added by
fix F24) reconstructs exactly the file the complete append produces.  The truncation inside one file issues two
writes as well (the dropped index entries are zeroed, then the removed records): the crash point between them is
`torn_truncation` – the recovery writes back every dropped index entry and yields the file as it was before the
truncation, a log that existed, for any position of the cut and any number of dropped entries, as long as the records
behind the block of the cut fit the scan limit of `init` (65535 records; see `torn_truncation` for the excluded
region).  The remaining multi-write operations (rollover; multi-file truncation; the interleaving of the four actors'
writes) are decided by enumeration of every prefix of the real journal of file mutations (`./check C04`), which is where F24,
F25 and F26 were found.
-/
namespace RNacos.LogFile
open RNacos.Spec.Stream
open RNacos.IndexFile (writeAt)

/-- after the first write of an accepted append, whether or not an index entry is still to come
(if one is, the process was killed before it was written), the file opens as the file holding the old entries and the new
record: nothing is lost and the next index entry will be placed correctly -/
theorem first_write_recovers (f : LogFile) (es : List Rec) (r : Rec) (h : WF f es) (hfull : isFull f = false)
    (hidx : r.index = endIndex f) (hr : RecOK r) (hsz : f.dataCursor + (frame (recBody r)).length < 2 ^ 64)
    (fl pre sp : Nat) :
    WF (load (writeAt f.bytes (if f.needSeek then f.dataCursor else f.pos) (frame (recBody r))) fl f.startIndex pre sp)
      (es ++ [r]) := by
  -- the file is the image of the entries of the complete append with the index area of `es`; the file of the complete
  -- append serves only to carry the geometry and the invariant for `es ++ [r]`
  have hg := write_wf f es r h hfull hidx hr hsz
  have hfr := write_static f r
  have hl := load_lagging_wf (write f r).1 (es ++ [r]) hg (es.length / f.interval)
  rw [hfr.start, hfr.hdr_eq, hfr.ivl] at hl
  rw [h.writePos]
  refine hl (Nat.div_le_div_right (by simp)) _ (h.image.append (Nat.div_mul_le_self _ _) r) ?_ fl pre sp
  have := h.behind_last_lt_scan
  rw [List.length_append, List.length_singleton]; omega

end RNacos.LogFile

namespace RNacos.Props.C04
open RNacos.LogFile RNacos.Spec.Stream

/-- an append that does not complete an index step issues exactly one file write (the record) -/
theorem append_without_index_step_is_one_write (f : LogFile) (r : Rec) (hfull : isFull f = false)
    (hidx : r.index = endIndex f) (hstep : f.curCount + 1 ≠ f.interval) :
    (write f r).1.bytes =
      RNacos.IndexFile.writeAt f.bytes (if f.needSeek then f.dataCursor else f.pos) (frame (recBody r)) := by
  rw [write, if_neg (Bool.eq_false_iff.mp hfull), if_neg (fun h => h hidx.symm)]
  dsimp only
  rw [if_neg hstep]

/-- hence both crash points of such an append hold a well-formed file: before, the old entries; after, the old
entries and the new one (C02's `write_wf`) -/
theorem append_crash_points (f : LogFile) (es : List Rec) (r : Rec) (h : WF f es) (hfull : isFull f = false)
    (hidx : r.index = endIndex f) (hr : RecOK r) (hsz : f.dataCursor + (frame (recBody r)).length < 2 ^ 64) :
    WF f es ∧ WF (write f r).1 (es ++ [r]) :=
  ⟨h, write_wf f es r h hfull hidx hr hsz⟩

/-- recovery from either crash point returns exactly those entries (C02's `load_wf`) -/
theorem recovery_after_append (f : LogFile) (es : List Rec) (r : Rec) (h : WF f es) (hfull : isFull f = false)
    (hidx : r.index = endIndex f) (hr : RecOK r) (hsz : f.dataCursor + (frame (recBody r)).length < 2 ^ 64)
    (fl pre sp : Nat) :
    WF (load f.bytes fl f.startIndex pre sp) es ∧
    WF (load (write f r).1.bytes fl (write f r).1.startIndex pre sp) (es ++ [r]) :=
  ⟨load_wf f es h fl pre sp, load_wf _ _ (write_wf f es r h hfull hidx hr hsz) fl pre sp⟩

/-- **the torn index step**: killed after the record that completes an index step was written and before its index
entry was – for any number of earlier index entries and any record sizes – the next start recovers a well-formed file
that holds every old entry and the new record, with the missing index entry written back -/
theorem torn_index_step (f : LogFile) (es : List Rec) (r : Rec) (h : WF f es) (hfull : isFull f = false)
    (hidx : r.index = endIndex f) (hr : RecOK r) (hsz : f.dataCursor + (frame (recBody r)).length < 2 ^ 64)
    (hstep : f.curCount + 1 = f.interval) (fl pre sp : Nat) :
    WF (load (RNacos.IndexFile.writeAt f.bytes (if f.needSeek then f.dataCursor else f.pos) (frame (recBody r)))
          fl f.startIndex pre sp) (es ++ [r]) :=
  first_write_recovers f es r h hfull hidx hr hsz fl pre sp

/-- on a file whose index entries are complete the recovery's repair step changes nothing -/
theorem repair_is_identity_on_complete_files (fuel : Nat) (f : LogFile) (es : List Rec) (h : WF f es) :
    repairIndex fuel f = f := by
  apply repairIndex_done
  rw [lastIdx_wf f es h, h.msg]
  exact behind_last_lt _ _ es h.ivl

/-- **the torn truncation**: `strip_log_to(k)` issues two file writes – the index entries behind the block that holds
the cut are zeroed, then the removed records are.  Killed in between, for any cut inside the file, any number of
dropped index entries and any record sizes, the next start recovers a well-formed file that holds every entry the file
held before the truncation (the repair writes the dropped index entries back one by one): the log exposed is one that
existed, nothing acknowledged is lost and nothing is invented.

Hypothesis `hscan` is forced by the code: `init` scans at most 65535 records behind the last index entry it finds.  A
truncation that drops index entries and leaves more than 65535 records behind the block of the cut – possible only in a
file of more than 65535 records cut back by more than that – is outside the theorem; there the recovered log would end
65535 records behind that block while later record bytes remain in the file (not reached by the enumeration of
`./check C04`, whose histories are far smaller; recorded as a limit in DESIGN.md). -/
theorem torn_truncation (f : LogFile) (es : List Rec) (k : Nat) (h : WF f es)
    (hs : f.startIndex ≤ k) (hlt : k < f.startIndex + es.length)
    (hscan : es.length - (k - f.startIndex) / f.interval * f.interval ≤ 0xffff) (fl pre sp : Nat) :
    ∃ idx len pop, findIdx f k = some (idx, len, pop) ∧
      WF (load (RNacos.IndexFile.writeAt f.bytes (f.indexCursor - len) (List.replicate len 0)) fl f.startIndex pre sp) es := by
  refine ⟨_, _, _, findIdx_layout f es k h.ivl h.indexs hs hlt, ?_⟩
  have hjq : (k - f.startIndex) / f.interval ≤ es.length / f.interval := Nat.div_le_div_right (by omega)
  rw [h.indexCursor_sub_tailLen hjq]
  exact load_lagging_wf f es h _ hjq _ (h.image.unindex hjq) hscan fl pre sp

/-- the bytes named in `torn_truncation` are those `strip_log_to` has written when its first write is done (its
second write, the zeroing of the records, starts from them) -/
theorem truncation_first_write (f : LogFile) (k : Nat) (idx : Idx) (len pop : Nat) (hpop : pop > 0) :
    ∃ g : LogFile, g.bytes = RNacos.IndexFile.writeAt f.bytes (f.indexCursor - len) (List.replicate len 0) ∧
      (stripCore f k idx len pop).bytes =
        RNacos.IndexFile.writeAt g.bytes (moveByCount g.bytes idx g.startIndex (k - idx.logIndex)).1
          (List.replicate (f.dataCursor - (moveByCount g.bytes idx g.startIndex (k - idx.logIndex)).1) 0) := by
  refine ⟨{ f with indexs := f.indexs.take (f.indexs.length - pop), indexCursor := f.indexCursor - len,
                   bytes := RNacos.IndexFile.writeAt f.bytes (f.indexCursor - len) (List.replicate len 0) }, rfl, ?_⟩
  unfold stripCore
  simp [hpop]

/-- a truncation that drops no index entry issues one file write: its crash points are its two ends -/
theorem truncation_without_index_entries_is_one_write (f : LogFile) (k : Nat) (idx : Idx) (len : Nat) :
    (stripCore f k idx len 0).bytes =
      RNacos.IndexFile.writeAt f.bytes (moveByCount f.bytes idx f.startIndex (k - idx.logIndex)).1
        (List.replicate (f.dataCursor - (moveByCount f.bytes idx f.startIndex (k - idx.logIndex)).1) 0) := by
  unfold stripCore
  simp

/-! ### non-vacuity -/
example : isFull (create 1 0 0) = false ∧ (create 1 0 0).curCount + 1 ≠ (create 1 0 0).interval := by decide

/-- the torn truncation on a concrete file (index step 2, five records, cut at index 2: two index entries are
dropped): the hypotheses of `torn_truncation` are met (the appends move cursors only, so they are evaluated) and the
file opened from the torn bytes returns all five records -/
example :
    let f := (run (create 1 0 0 2, []) [.append ⟨1, 1, [7]⟩, .append ⟨2, 1, [8, 8]⟩, .append ⟨3, 2, [9]⟩,
      .append ⟨4, 2, []⟩, .append ⟨5, 3, [1]⟩]).1
    f.startIndex ≤ 2 ∧ 2 < endIndex f ∧ ((findIdx f 2).map fun x => x.2.2) = some 2 ∧
    ((findIdx f 2).map fun x =>
      readRecords (load (RNacos.IndexFile.writeAt f.bytes (f.indexCursor - x.2.1) (List.replicate x.2.1 0)) f.fileLen 1 0 0) 0 9) =
      some (some [⟨1, 1, [7]⟩, ⟨2, 1, [8, 8]⟩, ⟨3, 2, [9]⟩, ⟨4, 2, []⟩, ⟨5, 3, [1]⟩]) := by
  intro f
  have h0 := create_wf 1 0 0 2 4096 (by omega) (by omega) (by omega) (by decide) (by omega) (by omega)
  have hw : WF f _ := run_wf _ _ _ h0 (run_view _ _ _ h0 (by decide)).1
  obtain ⟨idx, len, pop, hfi, hwg⟩ := torn_truncation f _ 2 hw (by decide) (by decide) (by decide) f.fileLen 0 0
  have hfi' : findIdx f 2 = some (⟨1, 4096⟩, 2, 2) := by decide
  rw [hfi'] at hfi
  cases hfi
  refine ⟨by decide, by decide, by rw [hfi']; rfl, ?_⟩
  have hr := read_wf _ _ 0 9 hwg
  rw [endIndex_wf _ _ hwg, (load_start _ _ _ _ _).1, (load_start _ _ _ _ _).2] at hr
  rw [hfi']
  exact congrArg some hr

end RNacos.Props.C04
