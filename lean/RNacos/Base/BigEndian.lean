/-
Big-endian byte strings of fixed width, as the models write them (`be8`, `beN`, `idToBin`): the digits
`n / 256 ^ i % 256` for `i = w-1 .. 0`, read back by the Horner fold.
-/
namespace RNacos.BE

theorem foldl_digits (w n a : Nat) :
    ((List.range w).reverse.map fun i => n / 256 ^ i % 256).foldl (fun acc b => acc * 256 + b) a =
      a * 256 ^ w + n % 256 ^ w := by
  induction w generalizing a with
  | zero => simp [Nat.mod_one]
  | succ w ih =>
    rw [List.range_succ, List.reverse_append, List.reverse_singleton, List.singleton_append, List.map_cons,
      List.foldl_cons, ih, Nat.pow_succ, Nat.mod_mul, Nat.add_mul]
    ac_rfl

theorem foldl_digits_of_lt {w n : Nat} (h : n < 256 ^ w) :
    ((List.range w).reverse.map fun i => n / 256 ^ i % 256).foldl (fun acc b => acc * 256 + b) 0 = n := by
  rw [foldl_digits, Nat.zero_mul, Nat.zero_add, Nat.mod_eq_of_lt h]

end RNacos.BE
