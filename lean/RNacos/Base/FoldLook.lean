/-
Folds seen through a `look` function.  Loading = folding a `step` that overwrites one key of what `look` sees: every
loader of the models has this shape (a batch applied to a view, the records of a snapshot loaded into a component), and
what the result holds under a key is decided by the last element of the list with that key (`look_foldl`).  A clean-up
loop = folding a `step` that updates the key it is called for by an idempotent function: every listed key is updated
once, whatever the order (`foldl_at`).
-/
namespace RNacos.Fold

variable {σ ρ κ β : Type} [DecidableEq κ] {step : σ → ρ → σ} {look : σ → κ → β} {key : ρ → κ} {val : ρ → β}

theorem look_foldr (l : List ρ) (hstep : ∀ r ∈ l, ∀ s k, look (step s r) k = if k = key r then val r else look s k)
    (s : σ) (k : κ) :
    look (l.foldr (fun r s => step s r) s) k = ((l.find? (key · == k)).map val).getD (look s k) := by
  induction l with
  | nil => rfl
  | cons r l ih =>
    rw [List.foldr_cons, hstep r List.mem_cons_self, List.find?_cons]
    by_cases h : k = key r
    · simp [h]
    · have : (key r == k) = false := by simpa using fun e => h e.symm
      rw [if_neg h, this, ih fun r' hr' => hstep r' (List.mem_cons_of_mem _ hr')]

theorem look_foldl (l : List ρ) (hstep : ∀ r ∈ l, ∀ s k, look (step s r) k = if k = key r then val r else look s k)
    (s : σ) (k : κ) :
    look (l.foldl step s) k = ((l.reverse.find? (key · == k)).map val).getD (look s k) := by
  rw [List.foldl_eq_foldr_reverse]
  exact look_foldr _ (fun r hr => hstep r (List.mem_reverse.1 hr)) s k

/-- loading a list that is the graph of a partial function (`o` is its value at `k`) makes `look` return that
function's value; this is the round trip of every snapshot whose records are read back one by one -/
theorem look_foldl_graph {ν : Type} {look : σ → κ → Option ν} {val : ρ → ν} (l : List ρ)
    (hstep : ∀ r ∈ l, ∀ s k, look (step s r) k = if k = key r then some (val r) else look s k)
    (s : σ) (k : κ) (o : Option ν) (hg : ∀ v, o = some v ↔ ∃ r ∈ l, key r = k ∧ val r = v) :
    look (l.foldl step s) k = o.orElse fun _ => look s k := by
  rw [look_foldl (val := fun r => some (val r)) l hstep]
  cases hf : l.reverse.find? (key · == k) with
  | none =>
    have : o = none := Option.eq_none_iff_forall_ne_some.2 fun v hv =>
      let ⟨r, hr, hk, _⟩ := (hg v).1 hv
      List.find?_eq_none.1 hf r (List.mem_reverse.2 hr) (by simpa using hk)
    rw [this]; rfl
  | some r =>
    have hr : r ∈ l := List.mem_reverse.1 (List.mem_of_find?_eq_some hf)
    have hk : key r = k := by simpa using List.find?_some hf
    rw [(hg (val r)).2 ⟨r, hr, hk, rfl⟩]; rfl

/-- what `look_foldl_graph` comes to when the state loaded into holds nothing under the key -/
theorem orElse_none (o : Option β) : (o.orElse fun _ => none) = o := by cases o <;> rfl

theorem foldl_at {step : σ → κ → σ} {F : β → β}
    (hstep : ∀ s r k, look (step s r) k = if r = k then F (look s r) else look s k) (hF : ∀ b, F (F b) = F b)
    (l : List κ) (s : σ) (k : κ) : look (l.foldl step s) k = if k ∈ l then F (look s k) else look s k := by
  induction l generalizing s with
  | nil => simp
  | cons r rest ih =>
    rw [List.foldl_cons, ih, hstep]
    by_cases e : r = k
    · subst e; simp [hF]
    · simp [e, Ne.symm e]

end RNacos.Fold
