/-
Association lists as the model of `HashMap`/`BTreeMap` (iteration order is never observable in the
models: outputs are sorted by the driver).  `set` keeps at most one entry per key.
-/
namespace RNacos.AL

variable {κ : Type} {ν : Type} [DecidableEq κ]

def get? (l : List (κ × ν)) (k : κ) : Option ν :=
  match l with
  | [] => none
  | (k', v) :: rest => if k' = k then some v else get? rest k

def erase (l : List (κ × ν)) (k : κ) : List (κ × ν) :=
  match l with
  | [] => []
  | (k', v) :: rest => if k' = k then erase rest k else (k', v) :: erase rest k

def set (l : List (κ × ν)) (k : κ) (v : ν) : List (κ × ν) := (k, v) :: erase l k

def contains (l : List (κ × ν)) (k : κ) : Bool := (get? l k).isSome

def keys (l : List (κ × ν)) : List κ := l.map (·.1)

@[simp] theorem get?_nil (k : κ) : get? ([] : List (κ × ν)) k = none := rfl

theorem get?_erase (l : List (κ × ν)) (k k2 : κ) : get? (erase l k) k2 = if k = k2 then none else get? l k2 := by
  induction l with
  | nil => simp [erase]
  | cons p rest ih =>
    obtain ⟨k', v⟩ := p
    by_cases h1 : k' = k
    · subst h1; simp only [erase, if_true, ih, get?]; split <;> rfl
    · simp only [erase, h1, if_false, get?, ih]
      by_cases h2 : k' = k2
      · subst h2; simp [Ne.symm h1]
      · simp [h2]

theorem get?_erase_same (l : List (κ × ν)) (k : κ) : get? (erase l k) k = none := by
  rw [get?_erase, if_pos rfl]

theorem get?_erase_other (l : List (κ × ν)) (k k2 : κ) (h : k ≠ k2) : get? (erase l k) k2 = get? l k2 := by
  rw [get?_erase, if_neg h]

theorem get?_erase_some {l : List (κ × ν)} {k k2 : κ} {v2 : ν} (h : get? (erase l k) k2 = some v2) :
    k2 ≠ k ∧ get? l k2 = some v2 := by
  rw [get?_erase] at h
  split at h
  · cases h
  · next e => exact ⟨Ne.symm e, h⟩

/-- puts an operation that leaves the list alone into the shape of those that change it at `key`
(`… = if key = k then … else get? l k`), so that one equation covers both -/
theorem get?_ite_of_eq {l : List (κ × ν)} {key : κ} {o : Option ν} (h : get? l key = o) (k : κ) :
    get? l k = if key = k then o else get? l k := by
  split
  · next e => rw [← e, h]
  · rfl

theorem get?_set (l : List (κ × ν)) (k k2 : κ) (v : ν) : get? (set l k v) k2 = if k = k2 then some v else get? l k2 := by
  rw [set, get?, get?_erase]
  split <;> rfl

@[simp] theorem get?_set_same (l : List (κ × ν)) (k : κ) (v : ν) : get? (set l k v) k = some v := by
  rw [get?_set, if_pos rfl]

theorem get?_set_other (l : List (κ × ν)) (k k2 : κ) (v : ν) (h : k ≠ k2) : get? (set l k v) k2 = get? l k2 := by
  rw [get?_set, if_neg h]

theorem forall_get?_set {l : List (κ × ν)} {k : κ} {v : ν} {P : κ → ν → Prop}
    (h : ∀ k2 v2, get? l k2 = some v2 → P k2 v2) (hp : P k v) :
    ∀ k2 v2, get? (set l k v) k2 = some v2 → P k2 v2 := by
  intro k2 v2 hv
  rw [get?_set] at hv
  split at hv
  · next e => cases hv; exact e ▸ hp
  · exact h k2 v2 hv

theorem isSome_get?_set (l : List (κ × ν)) (k k2 : κ) (v : ν) (h : (get? l k2).isSome = true) :
    (get? (set l k v) k2).isSome = true := by
  rw [get?_set]
  split
  · rfl
  · exact h

/-- the loops that register a listener or a subscriber under each of its keys (Props/C10) have this shape -/
theorem get?_foldl_set {ι : Type} (key : ι → κ) (g : Option ν → ν) (P : ν → Prop)
    (hkeep : ∀ w, P w → P (g (some w))) (k : κ) (items : List ι) (acc : List (κ × ν))
    (h : (∃ w, get? acc k = some w ∧ P w) ∨ (k ∈ items.map key ∧ ∀ o, P (g o))) :
    ∃ w, get? (items.foldl (fun acc i => set acc (key i) (g (get? acc (key i)))) acc) k = some w ∧ P w := by
  induction items generalizing acc with
  | nil => exact h.resolve_right fun h => nomatch h.1
  | cons i rest ih =>
    refine ih _ ?_
    rw [get?_set]
    split
    · next e =>
      subst e
      refine Or.inl ⟨_, rfl, ?_⟩
      rcases h with ⟨w, hw, hp⟩ | ⟨_, hnew⟩
      · rw [hw]; exact hkeep w hp
      · exact hnew _
    · next e => exact h.imp_right fun ⟨hk, hnew⟩ => ⟨(List.mem_cons.1 hk).resolve_left (Ne.symm e), hnew⟩

/-- keys are unique -/
def NodupKeys (l : List (κ × ν)) : Prop := (l.map (·.1)).Nodup

/-! `get?` is core's `List.lookup`, `erase` a `List.filter`: what core proves of those holds of these. -/

theorem get?_eq_lookup (l : List (κ × ν)) (k : κ) : get? l k = l.lookup k := by
  induction l with
  | nil => rfl
  | cons p rest ih =>
    rw [get?, List.lookup_cons, ih]
    by_cases h : p.1 = k
    · subst h; simp
    · rw [if_neg h, beq_false_of_ne (Ne.symm h)]

theorem erase_eq_filter (l : List (κ × ν)) (k : κ) : erase l k = l.filter fun e => e.1 ≠ k := by
  induction l with
  | nil => rfl
  | cons p rest ih =>
    obtain ⟨k', v⟩ := p
    by_cases h : k' = k <;> simp [erase, h, ih]

theorem get?_eq_none_iff (l : List (κ × ν)) (k : κ) : get? l k = none ↔ k ∉ l.map (·.1) := by
  rw [get?_eq_lookup, List.lookup_eq_none_iff]
  simp only [bne_iff_ne, List.mem_map, not_exists, not_and]
  exact ⟨fun h p hp e => h p hp e.symm, fun h p hp e => h p hp e.symm⟩

theorem get?_some_mem (l : List (κ × ν)) (k : κ) (v : ν) (h : get? l k = some v) : (k, v) ∈ l := by
  obtain ⟨l1, l2, rfl, _⟩ := List.lookup_eq_some_iff.1 (get?_eq_lookup l k ▸ h)
  simp

theorem mem_get?_some (l : List (κ × ν)) (k : κ) (v : ν) (hn : NodupKeys l) (h : (k, v) ∈ l) : get? l k = some v := by
  obtain ⟨l1, l2, rfl⟩ := List.append_of_mem h
  rw [get?_eq_lookup, List.lookup_eq_some_iff]
  refine ⟨l1, l2, rfl, fun p hp => bne_iff_ne.2 fun e => ?_⟩
  rw [NodupKeys, List.map_append, List.nodup_append] at hn
  exact hn.2.2 _ (List.mem_map_of_mem hp) _ List.mem_cons_self e.symm

theorem nodupKeys_erase (l : List (κ × ν)) (k : κ) (h : NodupKeys l) : NodupKeys (erase l k) := by
  rw [erase_eq_filter]
  exact List.Nodup.sublist (List.filter_sublist.map _) h

theorem nodupKeys_set (l : List (κ × ν)) (k : κ) (v : ν) (h : NodupKeys l) : NodupKeys (set l k v) :=
  List.nodup_cons.2 ⟨(get?_eq_none_iff _ k).1 (get?_erase_same l k), nodupKeys_erase l k h⟩

/-! Counting entries; the counts are integers, as the model's counters are.  With unique keys `erase` takes away the
one entry under the key, if there is one. -/

theorem count_erase (p : κ × ν → Bool) (l : List (κ × ν)) (k : κ) (hn : NodupKeys l) :
    (((erase l k).filter p).length : Int) = (l.filter p).length - ((get? l k).any fun v => p (k, v)).toNat := by
  induction l with
  | nil => rfl
  | cons e rest ih =>
    obtain ⟨k', v'⟩ := e
    obtain ⟨hk, hn⟩ := List.nodup_cons.1 hn
    have ih := ih hn
    rw [erase, get?]
    split
    · next h =>
      subst h
      rw [(get?_eq_none_iff rest k').2 hk] at ih
      rw [ih, List.filter_cons]; cases h : p (k', v') <;> simp [h]
    · rw [List.filter_cons, List.filter_cons]; cases p (k', v') <;> simp [ih] <;> omega

theorem count_set (p : κ × ν → Bool) (l : List (κ × ν)) (k : κ) (v : ν) (hn : NodupKeys l) :
    (((set l k v).filter p).length : Int) =
      (l.filter p).length - ((get? l k).any fun w => p (k, w)).toNat + (p (k, v)).toNat := by
  rw [set, List.filter_cons, ← count_erase p l k hn]; cases p (k, v) <;> simp

private theorem filter_true {α : Type} (l : List α) : l.filter (fun _ => true) = l := List.filter_eq_self.2 fun _ _ => rfl

theorem length_erase (l : List (κ × ν)) (k : κ) (hn : NodupKeys l) :
    ((erase l k).length : Int) = l.length - (get? l k).isSome.toNat := by
  simpa [filter_true] using count_erase (fun _ => true) l k hn

theorem length_set (l : List (κ × ν)) (k : κ) (v : ν) (hn : NodupKeys l) :
    ((set l k v).length : Int) = l.length - (get? l k).isSome.toNat + 1 := by
  simpa [filter_true] using count_set (fun _ => true) l k v hn

/-! A change of the values that leaves the keys alone. -/

theorem get?_mapVals (l : List (κ × ν)) (f : κ × ν → ν) (k : κ) :
    get? (l.map fun e => (e.1, f e)) k = (get? l k).map fun v => f (k, v) := by
  induction l with
  | nil => rfl
  | cons e l ih =>
    simp only [List.map_cons, get?]
    by_cases h : e.1 = k
    · subst h; simp
    · simp [h, ih]

-- type variables of its own: with the file's `κ` comes `[DecidableEq κ]`, which `NodupKeys` does not need
theorem nodupKeys_mapVals {α β : Type} (l : List (α × β)) (f : α × β → β) :
    NodupKeys (l.map fun e => (e.1, f e)) ↔ NodupKeys l := by
  rw [NodupKeys, List.map_map]; rfl

end RNacos.AL
